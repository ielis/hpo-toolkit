/-
Strictly sorted rows and the builder: `CsrMatrixBuilder.__setitem__` keeps every row strictly sorted by column, and a
history of assignments reads like the dense last-write-wins matrix.
-/
import Hpv.MatrixReadProofs

namespace Hpv.Csr

/-- the columns of the row ascend strictly -/
def SortedRow (row : Row) : Prop := (row.map Prod.fst).Pairwise (· < ·)

theorem SortedRow.nodup {row : Row} (h : SortedRow row) : (row.map Prod.fst).Nodup :=
  List.Pairwise.imp (fun hab => Nat.ne_of_lt hab) h

/-- canonical CSR, as the builder keeps it: every row strictly sorted by column, all columns inside the shape -/
structure RowsWF (rows : List Row) (ncols : Nat) : Prop where
  sorted : ∀ row ∈ rows, SortedRow row
  bounded : ∀ row ∈ rows, ∀ p ∈ row, p.1 < ncols

theorem RowsWF.toND {rows : List Row} {ncols : Nat} (h : RowsWF rows ncols) : RowsND rows ncols :=
  ⟨fun row hr => (h.sorted row hr).nodup, h.bounded⟩

theorem firstOf_cons (p : Nat × Int) (rest : Row) (c : Nat) :
    firstOf (p :: rest) c = if c = p.1 then p.2 else firstOf rest c := by
  unfold firstOf
  rw [List.find?_cons]
  by_cases h : p.1 = c
  · rw [decide_eq_true h, if_pos h.symm]; rfl
  · rw [decide_eq_false h, if_neg (Ne.symm h)]

theorem firstOf_insRow (c : Nat) (v : Int) (row : Row) (c' : Nat) :
    firstOf (insRow c v row) c' = if c' = c then v else firstOf row c' := by
  fun_induction insRow c v row with
  | case1 => exact firstOf_cons _ _ _
  | case2 a b rest h ih =>
    rw [firstOf_cons, firstOf_cons, ih]
    by_cases hc : c' = c
    · rw [if_pos hc, if_pos hc, if_neg (hc ▸ Nat.ne_of_gt h)]
    · rw [if_neg hc, if_neg hc]
  | case3 b rest h =>
    rw [firstOf_cons, firstOf_cons]
    by_cases hc : c' = c
    · rw [if_pos hc, if_pos hc]
    · rw [if_neg hc, if_neg hc, if_neg hc]
  | case4 a b rest h1 h2 => exact firstOf_cons _ _ _

theorem forall_mem_insRow {P : Nat × Int → Prop} {c : Nat} {v : Int} {row : Row} (hcv : P (c, v))
    (h : ∀ p ∈ row, P p) : ∀ p ∈ insRow c v row, P p := by
  fun_induction insRow c v row with
  | case1 => exact List.forall_mem_cons.mpr ⟨hcv, h⟩
  | case2 a b rest _ ih =>
    rw [List.forall_mem_cons] at h
    exact List.forall_mem_cons.mpr ⟨h.1, ih h.2⟩
  | case3 b rest _ => exact List.forall_mem_cons.mpr ⟨hcv, (List.forall_mem_cons.mp h).2⟩
  | case4 a b rest _ _ => exact List.forall_mem_cons.mpr ⟨hcv, h⟩

theorem sorted_insRow (c : Nat) (v : Int) (row : Row) (h : SortedRow row) : SortedRow (insRow c v row) := by
  unfold SortedRow at h ⊢
  fun_induction insRow c v row with
  | case1 => exact List.pairwise_singleton _ _
  | case2 a b rest hlt ih =>
    rw [List.map_cons, List.pairwise_cons, List.forall_mem_map] at h ⊢
    exact ⟨forall_mem_insRow hlt h.1, ih h.2⟩
  | case3 b rest _ => exact h
  | case4 a b rest h1 h2 =>
    have hca : c < a := Nat.lt_of_le_of_ne (Nat.le_of_not_lt h1) fun e => h2 e.symm
    exact List.pairwise_cons.mpr
      ⟨List.forall_mem_cons.mpr ⟨hca, fun x hx => Nat.lt_trans hca ((List.pairwise_cons.mp h).1 x hx)⟩, h⟩

theorem setItem_modify {rows : List Row} {r : Nat} (c : Nat) (v : Int) (hr : r < rows.length) :
    setItem (ofRows rows) r c v = ofRows (rows.modify r (insRow c v)) := by
  obtain ⟨A, row, B, rfl, rfl, h⟩ := List.exists_of_modify (insRow c v) hr
  rw [h, setItem_ofRows]

theorem forall_mem_modify {α} {P : α → Prop} {f : α → α} (hf : ∀ x, P x → P (f x)) {l : List α} (i : Nat)
    (h : ∀ x ∈ l, P x) : ∀ x ∈ l.modify i f, P x := by
  induction l generalizing i with
  | nil => rwa [List.modify_nil]
  | cons a l ih =>
    rw [List.forall_mem_cons] at h
    cases i with
    | zero => exact List.forall_mem_cons.mpr ⟨hf a h.1, h.2⟩
    | succ i => exact List.forall_mem_cons.mpr ⟨h.1, ih i h.2⟩

theorem dense_modify {rows : List Row} {r : Nat} (c : Nat) (v : Int) (r' c' : Nat) (hr : r < rows.length) :
    dense (rows.modify r (insRow c v)) r' c' = if r' = r ∧ c' = c then v else dense rows r' c' := by
  unfold dense
  rw [List.getD_eq_getElem?_getD, List.getD_eq_getElem?_getD]
  by_cases hrr : r = r'
  · subst hrr
    rw [List.getElem?_modify_eq, List.getElem?_eq_getElem hr]
    simp only [eq_self, true_and]
    exact firstOf_insRow c v _ c'
  · rw [List.getElem?_modify_ne _ _ hrr, if_neg (fun h => hrr h.1.symm)]

theorem psums_replicate (n acc : Nat) : psums acc (List.replicate n 0) = List.replicate (n + 1) acc := by
  induction n with
  | zero => rfl
  | succ k ih => rw [List.replicate_succ, psums, Nat.add_zero, ih, ← List.replicate_succ]

theorem empty_eq_ofRows (nrows : Nat) : Builder.empty nrows = ofRows (List.replicate nrows []) := by
  rw [ofRows, List.map_replicate, List.length_nil, psums_replicate, List.flatten_replicate_nil]
  rfl

theorem toNat_lt_of_inRange {i : Int} {n : Nat} (h : inRange i n = true) : i.toNat < n :=
  have h := (inRange_iff i n).mp h
  (Int.toNat_lt h.1).mpr h.2

theorem stepB_eq (nrows ncols : Nat) (b : Builder) (op : Int × Int × Int) :
    stepB nrows ncols b op = if validOp nrows ncols op then setItem b op.1.toNat op.2.1.toNat op.2.2 else b := by
  unfold stepB setItemChecked validOp
  cases inRange op.1 nrows <;> cases inRange op.2.1 ncols <;> rfl

/-- Last write wins: a cell reads as the value of a valid assignment to it (the last one), and as the initial value when
there is none. -/
theorem foldl_stepSpec_cases (nrows ncols : Nat) (ops : List (Int × Int × Int)) (f : Nat → Nat → Int) (r c : Nat) :
    (∃ op ∈ ops, validOp nrows ncols op = true ∧ (r = op.1.toNat ∧ c = op.2.1.toNat) ∧
        ops.foldl (stepSpec nrows ncols) f r c = op.2.2) ∨
      ((∀ op ∈ ops, validOp nrows ncols op = true → ¬ (r = op.1.toNat ∧ c = op.2.1.toNat)) ∧
        ops.foldl (stepSpec nrows ncols) f r c = f r c) := by
  induction ops generalizing f with
  | nil => exact .inr ⟨fun _ h => (nomatch h), rfl⟩
  | cons op rest ih =>
    rw [List.foldl_cons]
    rcases ih (stepSpec nrows ncols f op) with ⟨op', hin, h⟩ | ⟨hno, hval⟩
    · exact .inl ⟨op', List.mem_cons_of_mem _ hin, h⟩
    · rw [hval, stepSpec]
      by_cases hv : validOp nrows ncols op = true
      · rw [if_pos hv]
        by_cases ha : r = op.1.toNat ∧ c = op.2.1.toNat
        · exact .inl ⟨op, List.mem_cons_self, hv, ha, if_pos ha⟩
        · exact .inr ⟨List.forall_mem_cons.mpr ⟨fun _ => ha, hno⟩, if_neg ha⟩
      · rw [if_neg hv]
        exact .inr ⟨List.forall_mem_cons.mpr ⟨fun h => absurd h hv, hno⟩, rfl⟩

/-- The refinement relation between a builder and a dense matrix `f`: the flat arrays are the CSR form of `nrows` rows
that are well formed, store no zero (as long as `nz`: no zero was assigned), and read densely as `f`. -/
def Refines (nrows ncols : Nat) (nz : Prop) (b : Builder) (f : Nat → Nat → Int) : Prop :=
  ∃ rows, b = ofRows rows ∧ rows.length = nrows ∧ RowsWF rows ncols ∧ (nz → NZ rows) ∧
    ∀ r c, dense rows r c = f r c

theorem Refines.empty (nrows ncols : Nat) (nz : Prop) : Refines nrows ncols nz (Builder.empty nrows) (fun _ _ => 0) := by
  refine ⟨_, empty_eq_ofRows nrows, List.length_replicate,
    ⟨List.forall_mem_replicate.mpr (.inr .nil), List.forall_mem_replicate.mpr (.inr fun _ hp => nomatch hp)⟩,
    fun _ => List.forall_mem_replicate.mpr (.inr fun _ hp => nomatch hp), fun r c => ?_⟩
  rw [dense, List.getD_eq_getElem?_getD, List.getElem?_replicate]; split <;> rfl

theorem Refines.step {nrows ncols : Nat} {nz : Prop} {b : Builder} {f : Nat → Nat → Int} (h : Refines nrows ncols nz b f)
    (op : Int × Int × Int) (hv : nz → op.2.2 ≠ 0) :
    Refines nrows ncols nz (stepB nrows ncols b op) (stepSpec nrows ncols f op) := by
  obtain ⟨rows, rfl, hlen, hwf, hnz, hd⟩ := h
  rw [stepB_eq, stepSpec]
  by_cases hop : validOp nrows ncols op = true
  · rw [if_pos hop, if_pos hop]
    rw [validOp, Bool.and_eq_true] at hop
    have hr : op.1.toNat < rows.length := hlen ▸ toNat_lt_of_inRange hop.1
    exact ⟨_, setItem_modify _ _ hr, (List.length_modify ..).trans hlen,
      ⟨forall_mem_modify (sorted_insRow _ _) _ hwf.sorted,
       forall_mem_modify (fun _ => forall_mem_insRow (toNat_lt_of_inRange hop.2)) _ hwf.bounded⟩,
      fun h => forall_mem_modify (fun _ => forall_mem_insRow (hv h)) _ (hnz h),
      fun r c => by rw [dense_modify _ _ _ _ hr, hd]⟩
  · rw [if_neg hop, if_neg hop]
    exact ⟨rows, rfl, hlen, hwf, hnz, hd⟩

/-- The builder after any history of assignments refines the last-write-wins specification: the statement is
`Refines nrows ncols (∀ op ∈ ops, op.2.2 ≠ 0) (runOps nrows ncols ops) (specOps nrows ncols ops)` written out, so the two
folds are related step by step. -/
theorem runOps_spec (nrows ncols : Nat) (ops : List (Int × Int × Int)) :
    ∃ rows, runOps nrows ncols ops = ofRows rows ∧ rows.length = nrows ∧ RowsWF rows ncols ∧
      ((∀ op ∈ ops, op.2.2 ≠ 0) → NZ rows) ∧
      ∀ r c, dense rows r c = specOps nrows ncols ops r c :=
  List.foldl_rel (r := Refines nrows ncols (∀ op ∈ ops, op.2.2 ≠ 0)) (Refines.empty ..)
    fun op hop _ _ h => h.step op (· op hop)

end Hpv.Csr
