/-
The flat-array `__setitem__` of the builder is the row-wise insert `insRow` (`setItem_ofRows`): the scan over the whole
column deque is `scanRow` on the segment of the row (`scan_eq`); inside the flat arrays, putting `insRow c v row` in the
place of `row` is an overwrite or an insert at the position `scanRow` points to (`insRow_flat`); and the row pointers are
prefix sums, so that the segment between two consecutive pointers is a row (`slice_flatten`, which also gives the row read
of `StaticCsrArray`).
-/
import Hpv.Csr

namespace Hpv.Csr

theorem exists_split_of_getElem? {α} {l : List α} {i : Nat} {a : α} (h : l[i]? = some a) :
    ∃ A B, l = A ++ a :: B ∧ A.length = i := by
  obtain ⟨hi, rfl⟩ := List.getElem?_eq_some_iff.mp h
  exact ⟨l.take i, l.drop (i + 1), by rw [← List.drop_eq_getElem_cons hi, List.take_append_drop],
    List.length_take_of_le (Nat.le_of_lt hi)⟩

theorem scan_skip (l : List Nat) (i d stop q adj : Nat) :
    scan l i (i + d) stop q adj = scan (l.drop d) (i + d) (i + d) stop q adj := by
  induction d generalizing l i with
  | zero => rfl
  | succ d ih =>
    cases l with
    | nil => rfl
    | cons c rest =>
      rw [scan, if_pos (Nat.lt_add_of_pos_right (Nat.succ_pos d)), List.drop_succ_cons,
        show i + (d + 1) = i + 1 + d from Nat.add_right_comm i d 1, ih]

theorem scan_in_window {l : List Nat} {i start n q adj : Nat} (hs : start ≤ i) :
    scan l i start (i + n) q adj = (adj + (scanRow q (l.take n)).1, (scanRow q (l.take n)).2) := by
  induction l generalizing i n adj with
  | nil => rw [List.take_nil]; rfl
  | cons c rest ih =>
    rw [scan, if_neg (Nat.not_lt.mpr hs)]
    cases n with
    | zero => rw [if_pos (show i ≥ i + 0 from Nat.le_refl i)]; rfl
    | succ n =>
      rw [if_neg (Nat.not_le.mpr (Nat.lt_add_of_pos_right (Nat.succ_pos n))), List.take_succ_cons, scanRow,
        show i + (n + 1) = i + 1 + n from Nat.add_right_comm i n 1]
      by_cases hc : c < q
      · rw [if_pos hc, if_pos hc, ih (Nat.le_succ_of_le hs), Nat.add_assoc, Nat.add_comm 1]
      · rw [if_neg hc, if_neg hc]
        by_cases he : c = q
        · rw [if_pos he, if_pos he]; rfl
        · rw [if_neg he, if_neg he]; rfl

theorem scan_eq (l : List Nat) (start n q : Nat) :
    scan l 0 start (start + n) q 0 = scanRow q ((l.drop start).take n) := by
  have h := scan_skip l 0 start (start + n) q 0
  rw [Nat.zero_add] at h
  rw [h, scan_in_window (Nat.le_refl _), Nat.zero_add]

theorem insRow_flat {β} (f : Nat × Int → β) (pre post : Row) (c : Nat) (v : Int) (row : Row) :
    (pre ++ (insRow c v row ++ post)).map f =
      if (scanRow c (row.map Prod.fst)).2 then
        ((pre ++ (row ++ post)).map f).set (pre.length + (scanRow c (row.map Prod.fst)).1) (f (c, v))
      else ((pre ++ (row ++ post)).map f).insertIdx (pre.length + (scanRow c (row.map Prod.fst)).1) (f (c, v)) := by
  induction pre with
  | nil =>
    rw [List.nil_append, List.nil_append, List.length_nil, Nat.zero_add]
    fun_induction insRow c v row with
    | case1 => rfl
    | case2 a b rest h ih =>
      rw [List.map_cons (f := Prod.fst), scanRow, if_pos h, List.cons_append, List.map_cons, ih]
      exact apply_ite (List.cons (f (a, b))) ..
    | case3 b rest h => rw [List.map_cons (f := Prod.fst), scanRow, if_neg h, if_pos rfl]; rfl
    | case4 a b rest h1 h2 => rw [List.map_cons (f := Prod.fst), scanRow, if_neg h1, if_neg h2]; rfl
  | cons a pre ih =>
    rw [List.cons_append, List.map_cons, ih, List.length_cons, Nat.succ_add]
    exact apply_ite (List.cons (f a)) ..

theorem insRow_fst {c : Nat} {row : Row} (v : Int) (h : (scanRow c (row.map Prod.fst)).2 = true) :
    (insRow c v row).map Prod.fst = row.map Prod.fst := by
  fun_induction insRow c v row with
  | case1 => cases h
  | case2 a b rest hlt ih => rw [List.map_cons, scanRow, if_pos hlt] at h; exact congrArg (List.cons a) (ih h)
  | case3 b rest _ => rfl
  | case4 a b rest h1 h2 => rw [List.map_cons, scanRow, if_neg h1, if_neg h2] at h; cases h

theorem length_insRow (c : Nat) (v : Int) (row : Row) :
    (insRow c v row).length = if (scanRow c (row.map Prod.fst)).2 then row.length else row.length + 1 := by
  fun_induction insRow c v row with
  | case1 => rfl
  | case2 a b rest h ih => rw [List.map_cons, scanRow, if_pos h, List.length_cons, ih]; exact apply_ite (· + 1) ..
  | case3 b rest h => rw [List.map_cons, scanRow, if_neg h, if_pos rfl]; rfl
  | case4 a b rest h1 h2 => rw [List.map_cons, scanRow, if_neg h1, if_neg h2]; rfl

theorem psums_length (acc : Nat) (xs : List Nat) : (psums acc xs).length = xs.length + 1 := by
  induction xs generalizing acc with
  | nil => rfl
  | cons a t ih => simp only [psums, List.length_cons, ih]

theorem psums_succ (acc : Nat) (zs : List Nat) : (psums acc zs).map (· + 1) = psums (acc + 1) zs := by
  induction zs generalizing acc with
  | nil => rfl
  | cons z zs ih => rw [psums, List.map_cons, ih, psums, Nat.add_right_comm]

theorem bump_psums (acc : Nat) (xs : List Nat) (y : Nat) (ys : List Nat) :
    bump xs.length (psums acc (xs ++ y :: ys)) = psums acc (xs ++ (y + 1) :: ys) := by
  induction xs generalizing acc with
  | nil => rw [List.nil_append, psums, List.length_nil, bump, psums_succ, Nat.add_assoc]; rfl
  | cons x xs ih => rw [List.cons_append, psums, List.length_cons, bump, ih]; rfl

theorem psums_split {α} (acc : Nat) (A B : List (List α)) (row : List α) :
    (psums acc ((A ++ row :: B).map List.length)).getD A.length 0 = acc + A.flatten.length ∧
    (psums acc ((A ++ row :: B).map List.length)).getD (A.length + 1) 0 = acc + A.flatten.length + row.length := by
  induction A generalizing acc with
  -- `B` is split because the entry at position 1 is the head of `psums` of the tail, which needs its next cons cell
  | nil => cases B <;> exact ⟨rfl, rfl⟩
  | cons a A ih =>
    rw [List.flatten_cons, List.length_append, ← Nat.add_assoc]
    exact ih (acc + a.length)

theorem slice_flatten {α} {rows : List (List α)} {i : Nat} {row : List α} (h : rows[i]? = some row) :
    (rows.flatten.drop ((psums 0 (rows.map List.length)).getD i 0)).take
      ((psums 0 (rows.map List.length)).getD (i + 1) 0 - (psums 0 (rows.map List.length)).getD i 0) = row := by
  obtain ⟨A, B, rfl, rfl⟩ := exists_split_of_getElem? h
  rw [(psums_split 0 A B row).1, (psums_split 0 A B row).2, Nat.zero_add, Nat.add_sub_cancel_left, List.flatten_append,
    List.flatten_cons, List.drop_left, List.take_left]

/-- `outgoing_nodes(i)` of the `StaticCsrArray` that `_build_csr_data` makes from per-row lists is the `i`-th list. -/
theorem Static.row_ofRows_getElem (rows : List (List Nat)) (i : Nat) (r : List Nat) (h : rows[i]? = some r) :
    (Static.ofRows rows).row i = r :=
  slice_flatten h

theorem setItem_ofRows (A B : List Row) (row : Row) (c : Nat) (v : Int) :
    setItem (ofRows (A ++ row :: B)) A.length c v = ofRows (A ++ insRow c v row :: B) := by
  -- the two pointers delimit `row`, so the scan sees exactly its columns
  rw [setItem, ofRows, (psums_split 0 A B row).1, (psums_split 0 A B row).2, Nat.zero_add]
  simp only [ofRows, List.flatten_append, List.flatten_cons, List.map_append (f := List.length), List.map_cons]
  rw [scan_eq, ← List.map_drop, ← List.map_take, List.drop_left, List.take_left,
    ← List.length_map (as := A) List.length, bump_psums, length_insRow, insRow_flat Prod.snd]
  cases hb : (scanRow c (row.map Prod.fst)).2 with
  -- an overwrite leaves the column array alone (`insRow_fst`); only an insert changes it like the data array
  | false => rw [insRow_flat Prod.fst, hb]; rfl
  | true => simp only [List.map_append, insRow_fst v hb]; rfl

end Hpv.Csr
