/-
The csv dialect model (Hpv/Csv.lean): the reader's state machine, fed with what the writer produced, returns the rows that
were written - for every row of every shape, every content (delimiters, quotes, line breaks of any kind inside a field) and
every choice of quoting more than necessary; and it fails on no text at all.

Reader states are written out as `⟨st, field, fields, recs⟩`, so that a transition on a given character is a matter of
evaluation.
-/
import Hpv.Csv

namespace Hpv.Csv

theorem run_ok_trans {p q : P} {a : List (Option Nat)} (b : List (Option Nat)) (h : run p a = .ok q) :
    run p (a ++ b) = run q b := by
  fun_induction run p a with
  | case1 => cases h; rfl
  | case2 p e es p' hs ih => rw [List.cons_append, run, hs]; exact ih h
  | case3 => cases h

theorem run_cons_ok {p p' : P} {e : Option Nat} (es : List (Option Nat)) (h : step p e = .ok p') :
    run p (e :: es) = run p' es := by
  rw [run, h]

theorem events_cons (c : Nat) (t : Str) :
    events (c :: t) = some c :: if t = [] ∨ lineEndAfter c t.head? = true then none :: events t else events t := by
  cases t with
  | nil => rfl
  | cons d r => simp only [events, List.head?_cons, reduceCtorEq, false_or]; split <;> rfl

theorem events_crlf (k : Str) : events (cr :: lf :: k) = some cr :: some lf :: none :: events k := by
  rw [events_cons, events_cons]
  cases k <;> rfl

theorem lineEndAfter_eq_false {c : Nat} (n : Option Nat) (h : isNl c = false) : lineEndAfter c n = false := by
  simp only [isNl, Bool.or_eq_false_iff] at h
  simp only [lineEndAfter, h.1, h.2, Bool.false_and, Bool.or_false]

theorem eq_lf_of_lineEndAfter_eq_false {c : Nat} {n : Option Nat} (h : isNl c = true) (hn : lineEndAfter c n = false) : n = some lf := by
  simp only [lineEndAfter, Bool.or_eq_false_iff, Bool.and_eq_false_iff, bne_eq_false_iff_eq] at hn
  simp only [isNl, Bool.or_eq_true] at h
  rcases h with h | h
  · rcases hn.2 with h' | h'
    · rw [h] at h'; cases h'
    · exact h'
  · rw [h] at hn; cases hn.1

/-- One character in front of more text: a transition of the machine, provided the character ends no line or the
end-of-line event changes nothing in the state reached (inside quotes). -/
theorem run_char {p q : P} {c : Nat} {K : Str} (hK : K ≠ []) (hs : step p (some c) = .ok q)
    (heol : isNl c = false ∨ step q none = .ok q) : run p (events (c :: K)) = run q (events K) := by
  rw [events_cons, run_cons_ok _ hs]
  split
  · next h =>
    rcases heol with h' | h'
    · rw [lineEndAfter_eq_false _ h'] at h; exact (h.elim hK nofun).elim
    · exact run_cons_ok _ h'
  · rfl

variable {fs : List Str} {rs : List (List Str)}

/-! On the delimiter, the quote character, CR and LF every transition of `step` is a matter of evaluation. On the others: -/

theorem special_false {c : Nat} (h : special c = false) : isNl c = false ∧ c ≠ quote ∧ c ≠ comma := by
  simp only [special, Bool.or_eq_false_iff, beq_eq_false_iff_ne] at h
  simp only [isNl, Bool.or_eq_false_iff, beq_eq_false_iff_ne]
  exact ⟨⟨h.1.2, h.2⟩, h.1.1.2, h.1.1.1⟩

theorem step_inQuoted {c : Nat} (f : Str) (hc : c ≠ quote) :
    step ⟨.inQuoted, f, fs, rs⟩ (some c) = .ok ⟨.inQuoted, f ++ [c], fs, rs⟩ :=
  if_neg hc

/-- outside quotes a character that is none of the four is data of an unquoted field (also right after a closing quote:
the dialect is not strict) -/
theorem step_plain {st : St} {c : Nat} (f : Str) (hq : st ≠ .inQuoted) (he : st ≠ .eatCrnl) (hc : special c = false) :
    step ⟨st, f, fs, rs⟩ (some c) = .ok ⟨.inField, f ++ [c], fs, rs⟩ := by
  obtain ⟨h1, h2, h3⟩ := special_false hc
  have h1 := Bool.eq_false_iff.mp h1
  cases st with
  | startRecord => -- `isNl` is tested twice: by `step` and by `startFieldStep`
    exact (if_neg h1).trans (congrArg _ ((if_neg h1).trans ((if_neg h2).trans (if_neg h3))))
  | startField => exact congrArg _ ((if_neg h1).trans ((if_neg h2).trans (if_neg h3)))
  | inField => exact (if_neg h1).trans (if_neg h3)
  | inQuoted => exact absurd rfl hq
  | quoteInQuoted => exact (if_neg h2).trans ((if_neg h3).trans (if_neg h1))
  | eatCrnl => exact absurd rfl he

/-- in front of any non-empty rest, reading `t` takes the machine from `p` to `q` -/
def Reads (t : Str) (p q : P) : Prop := ∀ K, K ≠ [] → run p (events (t ++ K)) = run q (events K)

theorem Reads.nil (p : P) : Reads [] p p := fun _ _ => rfl

theorem Reads.cons {p q r : P} {c : Nat} {t : Str} (hs : step p (some c) = .ok q)
    (heol : isNl c = false ∨ step q none = .ok q) (h : Reads t q r) : Reads (c :: t) p r :=
  fun K hK => (run_char (fun h => hK (List.append_eq_nil_iff.mp h).2) hs heol).trans (h K hK)

theorem quoted_body (f fld : Str) :
    Reads (escape f ++ [quote]) ⟨.inQuoted, fld, fs, rs⟩ ⟨.quoteInQuoted, fld ++ f, fs, rs⟩ := by
  fun_induction escape f generalizing fld with
  | case1 => rw [List.append_nil]; exact .cons rfl (.inl rfl) (.nil _)
  | case2 f ih => rw [List.append_cons fld]; exact .cons rfl (.inl rfl) (.cons rfl (.inl rfl) (ih _))
  | case3 c f hc ih => rw [List.append_cons fld]; exact .cons (step_inQuoted fld hc) (.inr rfl) (ih _)

theorem plain_body (f fld : Str) (hf : ∀ c ∈ f, special c = false) :
    Reads f ⟨.inField, fld, fs, rs⟩ ⟨.inField, fld ++ f, fs, rs⟩ := by
  induction f generalizing fld with
  | nil => rw [List.append_nil]; exact .nil _
  | cons c f ih =>
    have hc := hf c List.mem_cons_self
    rw [List.append_cons fld c f]
    exact .cons (step_plain fld nofun nofun hc) (.inl (special_false hc).1) (ih _ fun d hd => hf d (List.mem_cons_of_mem _ hd))

theorem needsQuote_false {f : Str} (h : needsQuote f = false) : ∀ c ∈ f, special c = false := by
  simpa only [needsQuote, List.any_eq_false, Bool.not_eq_true] using h

/-- One written field at the start of a record or after a delimiter: the machine arrives, with nothing but this field
consumed, in a state from which the delimiter saves exactly `f` and goes on to the next field, and CR saves exactly `f`
and waits for the end of the line. (Excluded: an empty unquoted field at the very start of a record followed by CR - the
writer never produces it, it writes `""` for a row that consists of one empty field.) -/
theorem field_then (b : Bool) (f : Str) {st : St} (fs : List Str) (rs : List (List Str)) (hst : st = .startField ∨ st = .startRecord) :
    ∃ q, Reads (writeField b f) ⟨st, [], fs, rs⟩ q ∧
      step q (some comma) = .ok ⟨.startField, [], fs ++ [f], rs⟩ ∧
      ((st = .startRecord → f = [] → b = true) → step q (some cr) = .ok ⟨.eatCrnl, [], fs ++ [f], rs⟩) := by
  unfold writeField
  split
  · exact ⟨⟨.quoteInQuoted, f, fs, rs⟩, .cons (by rcases hst with rfl | rfl <;> rfl) (.inl rfl) (quoted_body f []),
      rfl, fun _ => rfl⟩
  · next hq =>
    have hq := Bool.or_eq_false_iff.mp (Bool.eq_false_iff.mpr hq)
    cases f with
    | nil =>
      refine ⟨⟨st, [], fs, rs⟩, .nil _, by rcases hst with rfl | rfl <;> rfl, fun h => ?_⟩
      rcases hst with rfl | rfl
      · rfl
      · exact nomatch hq.1.symm.trans (h rfl rfl)
    | cons c f =>
      have hpl := needsQuote_false hq.2
      have hc := hpl c List.mem_cons_self
      exact ⟨⟨.inField, c :: f, fs, rs⟩, .cons (step_plain [] (by rcases hst with rfl | rfl <;> nofun)
        (by rcases hst with rfl | rfl <;> nofun) hc) (.inl (special_false hc).1)
        (plain_body f [c] fun d hd => hpl d (List.mem_cons_of_mem _ hd)), rfl, fun _ => rfl⟩

/-- the fields of one row, then CR LF, make one record; `hne` excludes the only unreadable output, an unquoted empty field
alone in a record -/
theorem fields_then (force : Nat → Bool) (i : Nat) (g : Str) (gs : List Str) (st : St) (fs : List Str)
    (rs : List (List Str)) (k : Str)
    (hst : st = .startField ∨ st = .startRecord)
    (hne : st = .startRecord → g :: gs = [[]] → force i = true) :
    run ⟨st, [], fs, rs⟩ (events (writeFields force i (g :: gs) ++ cr :: lf :: k)) =
      run ⟨.startRecord, [], [], rs ++ [fs ++ g :: gs]⟩ (events k) := by
  induction gs generalizing st fs i g with
  | nil =>
    obtain ⟨q, h1, _, h3⟩ := field_then (force i) g fs rs hst
    rw [writeFields, h1 _ (List.cons_ne_nil _ _), events_crlf, run_cons_ok _ (h3 fun hs hg => hne hs (by rw [hg]))]
    rfl -- the two steps on LF and the end-of-line event, by evaluation
  | cons g' gs ih =>
    obtain ⟨q, h1, h2, _⟩ := field_then (force i) g fs rs hst
    rw [writeFields, List.append_assoc, List.cons_append, h1 _ (List.cons_ne_nil _ _), run_char (by simp) h2 (.inl rfl),
      ih (i + 1) g' _ _ (.inl rfl) nofun, List.append_assoc]
    rfl -- `[g] ++ g' :: gs` is `g :: g' :: gs`

/-- the `""` special case is the general case with quoting forced -/
theorem writeRow_eq (force : Nat → Bool) (r : List Str) :
    writeRow force r = writeFields (if r = [[]] then fun _ => true else force) 0 r ++ [cr, lf] := by
  fun_cases writeRow force r
  · rfl
  · next h => rw [if_neg fun h' => h h']

theorem rows_then (force : Nat → Nat → Bool) (j : Nat) (rs rs0 : List (List Str)) :
    run ⟨.startRecord, [], [], rs0⟩ (events (writeRows force j rs)) = .ok ⟨.startRecord, [], [], rs0 ++ rs⟩ := by
  induction rs generalizing rs0 j with
  | nil => rw [List.append_nil]; rfl
  | cons r rs ih =>
    -- the IH, right to left: the result state is written as a `run` over the remaining rows, from the state after row `r`
    rw [List.append_cons, ← ih (j + 1), writeRows]
    cases r with
    | nil =>
      rw [show writeRow (force j) [] = [cr, lf] from rfl, List.cons_append, List.cons_append, events_crlf]
      rfl -- CR, LF and the end-of-line event from START_RECORD: the record `[]`, by evaluation
    | cons g gs =>
      rw [writeRow_eq, List.append_assoc, List.cons_append, List.cons_append,
        fields_then _ 0 g gs _ _ _ _ (.inr rfl) fun _ h => by rw [if_pos h]]
      rfl -- `[] ++ g :: gs` is `g :: gs`

theorem readAll_writeRows (force : Nat → Nat → Bool) (rs : List (List Str)) : readAll (writeRows force 0 rs) = .ok rs := by
  rw [readAll, rows_then force 0 rs []]
  rfl

/-- `DictReader` skips a data row without fields: hence `hrs` -/
theorem readDict_writeRows (force : Nat → Nat → Bool) (h : List Str) {rows : List (List Str)}
    (hrs : ∀ r ∈ rows, r ≠ []) :
    readDict (writeRows force 0 (h :: rows)) = .ok (h, rows.map (fun r => h.zip r)) := by
  have hf : rows.filter (fun r => !r.isEmpty) = rows :=
    List.filter_eq_self.mpr fun r hr => by
      cases r with
      | nil => exact absurd rfl (hrs _ hr)
      | cons _ _ => rfl
  rw [readDict, readAll_writeRows]
  dsimp only
  rw [hf]

theorem startFieldStep_st {p : P} {c : Nat} (h : (startFieldStep p c).st = .eatCrnl) : isNl c = true := by
  revert h
  fun_cases startFieldStep p c
  · exact fun _ => ‹_›
  all_goals exact nofun

/-- The one failing transition is a character other than CR and LF in EAT_CRNL, and only CR and LF lead into that state
or keep the machine there. -/
theorem step_ok (p : P) (e : Option Nat) (h : p.st = .eatCrnl → ∀ c, e = some c → isNl c = true) :
    ∃ q, step p e = .ok q ∧ (q.st = .eatCrnl → ∃ c, e = some c ∧ isNl c = true) := by
  -- by the twenty branches of `step`
  fun_cases step p e
  -- the failing one is excluded by `h`
  case case20 hs hc => exact absurd (h hs _ rfl) hc
  -- three keep the state, which is not EAT_CRNL (`hs`)
  case case5 hs | case12 hs _ _ | case14 hs _ => exact ⟨_, rfl, fun h' => nomatch hs.symm.trans h'⟩
  -- two are START_FIELD's
  case case8 | case9 => exact ⟨_, rfl, fun h' => ⟨_, rfl, startFieldStep_st h'⟩⟩
  -- four go into EAT_CRNL or stay there, under the test `isNl c`
  case case7 _ hc | case10 _ hc | case17 _ _ _ hc | case19 _ hc => exact ⟨_, rfl, fun _ => ⟨_, rfl, hc⟩⟩
  -- the others name another state
  all_goals exact ⟨_, rfl, nofun⟩

/-- The invariant that carries the induction: in EAT_CRNL the next character is LF (a CR or LF outside quotes is followed by
the end of its line or by the LF of a CR LF). -/
theorem run_events_ok (t : Str) : ∀ p : P, (p.st = .eatCrnl → t.head? = some lf) → ∃ q, run p (events t) = .ok q := by
  induction t with
  | nil => exact fun p _ => ⟨p, rfl⟩
  | cons c t ih =>
    intro p hp
    obtain ⟨p1, h1, e1⟩ := step_ok p (some c) fun h c' hc => by
      cases hc; cases hp h; rfl
    rw [events_cons, run_cons_ok _ h1]
    split
    · obtain ⟨p2, h2, e2⟩ := step_ok p1 none nofun
      rw [run_cons_ok _ h2]
      exact ih p2 fun h => nomatch e2 h
    · next hle =>
      refine ih p1 fun h => ?_
      obtain ⟨_, hc, hnl⟩ := e1 h
      cases hc
      exact eq_lf_of_lineEndAfter_eq_false hnl (Bool.eq_false_iff.mpr fun h' => hle (.inr h'))

theorem flatten_splitLinesAux (acc t : Str) : (splitLinesAux acc t).flatten = acc ++ t := by
  fun_induction splitLinesAux acc t with
  | case1 => rfl
  | case2 acc _ => exact List.flatten_singleton.trans (List.append_nil _).symm
  | case3 acc c => exact List.flatten_singleton
  | case4 acc c d rest _ ih => rw [List.flatten_cons, ih, List.nil_append, List.append_assoc]; rfl
  | case5 acc c d rest _ ih => rw [ih, List.append_assoc]; rfl

theorem flatten_splitLines (t : Str) : (splitLines t).flatten = t := by
  simp [splitLines, flatten_splitLinesAux]

theorem writeRows_head (force : Nat → Nat → Bool) (c : Nat) (w : Str) (hs : List Str) (rows : List (List Str)) {x : Nat}
    (h : (writeRows force 0 (((c :: w) :: hs) :: rows)).head? = some x) : x = quote ∨ x = c := by
  have hX : ∃ X, writeRows force 0 (((c :: w) :: hs) :: rows) = writeField (force 0 0) (c :: w) ++ X := by
    cases hs with
    | nil => exact ⟨_, List.append_assoc _ _ _⟩
    | cons g gs => exact ⟨_, (List.append_assoc _ _ _).trans (List.append_assoc _ _ _)⟩
  obtain ⟨X, hX⟩ := hX
  rw [hX, writeField] at h
  split at h <;> cases h
  · exact .inl rfl
  · exact .inr rfl

end Hpv.Csv
