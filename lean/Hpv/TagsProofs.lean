import Hpv.Tags

/-
`lexLt` is core's order on lists (`lexLt_iff`), so its order facts are core's; `latest` is a fold whose step keeps the
greater of two tags, so it ends in a greatest one (`foldl_maxStep`).
-/
namespace Hpv.Tags

theorem lexLt_iff (a b : Str) : lexLt a b = true ↔ a < b := by
  fun_induction lexLt a b with
  | case4 a as b bs ih =>
    simp only [Bool.or_eq_true, decide_eq_true_eq, Bool.and_eq_true, beq_iff_eq, ih, List.cons_lt_cons_iff]
  | _ => simp

theorem lexLt_false_iff (a b : Str) : lexLt a b = false ↔ b ≤ a := by
  rw [← Bool.not_eq_true, lexLt_iff, List.not_lt]

theorem foldl_maxStep (l : List Str) (m : Str) :
    ∃ r, l.foldl maxStep (some m) = some r ∧ r ∈ m :: l ∧ ∀ t ∈ m :: l, t ≤ r := by
  induction l generalizing m with
  | nil => exact ⟨m, rfl, .head _, fun t ht => List.mem_singleton.mp ht ▸ List.le_refl m⟩
  | cons a l ih =>
    rw [List.foldl_cons, maxStep]
    -- the step keeps one of `m`, `a`, and the other does not exceed it
    cases h : lexLt m a
    · obtain ⟨r, e, hmem, hub⟩ := ih m
      obtain ⟨top, hrest⟩ := List.forall_mem_cons.mp hub
      exact ⟨r, e, ((List.sublist_cons_self a l).cons_cons m).subset hmem, List.forall_mem_cons.mpr
        ⟨top, List.forall_mem_cons.mpr ⟨List.le_trans ((lexLt_false_iff m a).mp h) top, hrest⟩⟩⟩
    · obtain ⟨r, e, hmem, hub⟩ := ih a
      exact ⟨r, e, List.mem_cons_of_mem m hmem, List.forall_mem_cons.mpr
        ⟨List.le_trans (List.le_of_lt ((lexLt_iff m a).mp h)) (hub a (.head _)), hub⟩⟩

theorem latest_spec (names : List Str) :
    match latest names with
    | none => ∀ t ∈ names, prodTag t = false
    | some r => r ∈ names ∧ prodTag r = true ∧ ∀ t ∈ names, prodTag t = true → lexLt r t = false := by
  unfold latest
  cases hl : names.filter prodTag with
  | nil => exact fun t ht => Bool.eq_false_iff.mpr fun hp => List.filter_eq_nil_iff.mp hl t ht hp
  | cons x xs =>
    obtain ⟨r, e, hmem, hub⟩ := foldl_maxStep xs x
    rw [List.foldl_cons, maxStep, e]
    rw [← hl] at hmem hub
    exact ⟨(List.mem_filter.mp hmem).1, (List.mem_filter.mp hmem).2,
      fun t ht hp => (lexLt_false_iff _ _).mpr (hub t (List.mem_filter.mpr ⟨ht, hp⟩))⟩

theorem prodTag_iff (s : Str) : prodTag s = true ↔
    ∃ y1 y2 y3 y4 m1 m2 a1 a2, s = [118, y1, y2, y3, y4, 45, m1, m2, 45, a1, a2] ∧
      isDigit y1 = true ∧ isDigit y2 = true ∧ isDigit y3 = true ∧ isDigit y4 = true ∧
      isDigit m1 = true ∧ isDigit m2 = true ∧ isDigit a1 = true ∧ isDigit a2 = true := by
  constructor
  · intro h
    unfold prodTag at h
    split at h
    · simp only [Bool.and_eq_true, beq_iff_eq] at h
      obtain ⟨⟨⟨⟨⟨⟨⟨⟨⟨⟨rfl, h1⟩, h2⟩, h3⟩, h4⟩, rfl⟩, h5⟩, h6⟩, rfl⟩, h7⟩, h8⟩ := h
      exact ⟨_, _, _, _, _, _, _, _, rfl, h1, h2, h3, h4, h5, h6, h7, h8⟩
    · cases h
  · rintro ⟨y1, y2, y3, y4, m1, m2, a1, a2, rfl, h1, h2, h3, h4, h5, h6, h7, h8⟩
    simp only [prodTag, h1, h2, h3, h4, h5, h6, h7, h8, beq_self_eq_true, Bool.and_self]

end Hpv.Tags
