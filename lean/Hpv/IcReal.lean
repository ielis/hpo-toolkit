/-
The real-number layer of C09: information content `-log_b (c / p)` of positive counts `c ≤ p`.
(Mathlib: `Real.logb`.)  Floats are not modelled; the correspondence run compares with a relative tolerance of 1e-9.
-/
import Mathlib.Analysis.SpecialFunctions.Log.Base

namespace Hpv.Ic

/-- `-log_b (c / p)`; `b = e` for `base=None` -/
noncomputable def icOf (b : ℝ) (c p : ℕ) : ℝ := - Real.logb b ((c : ℝ) / (p : ℝ))

theorem icOf_root (b : ℝ) {p : ℕ} (hp : 0 < p) : icOf b p p = 0 := by
  have h : (p : ℝ) / p = 1 := div_self (Nat.cast_ne_zero.mpr hp.ne')
  unfold icOf
  rw [h, Real.logb_one, neg_zero]

theorem icOf_antitone {b : ℝ} (hb : 1 < b) {c c' p : ℕ} (hc : 0 < c) (hcc : c ≤ c') (hp : 0 < p) :
    icOf b c' p ≤ icOf b c p :=
  neg_le_neg (Real.logb_le_logb_of_le hb (div_pos (Nat.cast_pos.mpr hc) (Nat.cast_pos.mpr hp))
    (div_le_div_of_nonneg_right (Nat.cast_le.mpr hcc) (Nat.cast_nonneg p)))

theorem icOf_nonneg {b : ℝ} (hb : 1 < b) {c p : ℕ} (hc : 0 < c) (hcp : c ≤ p) : 0 ≤ icOf b c p :=
  icOf_root b (hc.trans_le hcp) ▸ icOf_antitone hb hc hcp (hc.trans_le hcp)

end Hpv.Ic
