/-
The two matrix-backed factories establish `Represents`: the adjacency matrix they assemble represents the rooted edge
list.  `CsrGraphFactory` goes through `CsrMatrixBuilder.__setitem__` (a client of C17's refinement theorem
`runOps_spec`); `IncrementalCsrGraphFactory` through per-node adjacency collection (`_partition_edges` with its cache),
`_preprocess_edges`, the per-row `sorted(...)` by label, the label→index lookups and the CSR assembly.

Both store the same thing, the list `signed E'` of coded label pairs, addressed by index - one as builder assignments, the
other row by row - and both end in `represents_of_rows`: a cell reads as a nonzero code iff that code is stored for its
labels.  Why one code only is each factory's own matter: the builder's last assignment wins, and without two-cycles all
assignments to a cell agree (`signed_unique`); a row of the incremental factory holds every column once.
-/
import Hpv.GraphModelProofs
import Hpv.MatrixProofs

namespace Hpv.GM
open Hpv.Graph Hpv.Csr Hpv.Indexed

variable {κ : Type} [DecidableEq κ]

/-- the signed adjacency relation between labels, edge by edge: code `1` from a node to a parent, `-1` from a node to a child -/
def signed (E' : List (Edge κ)) : List (κ × κ × Int) := E'.flatMap fun e => [(e.1, e.2, 1), (e.2, e.1, -1)]

omit [DecidableEq κ] in
theorem mem_signed {E' : List (Edge κ)} {x y : κ} {v : Int} :
    (x, y, v) ∈ signed E' ↔ (v = 1 ∧ (x, y) ∈ E') ∨ (v = -1 ∧ (y, x) ∈ E') := by
  simp only [signed, List.mem_flatMap, List.mem_cons, List.not_mem_nil, or_false, Prod.mk.injEq]
  constructor
  · rintro ⟨e, he, ⟨rfl, rfl, rfl⟩ | ⟨rfl, rfl, rfl⟩⟩
    · exact .inl ⟨rfl, he⟩
    · exact .inr ⟨rfl, he⟩
  · rintro (⟨rfl, h⟩ | ⟨rfl, h⟩)
    · exact ⟨_, h, .inl ⟨rfl, rfl, rfl⟩⟩
    · exact ⟨_, h, .inr ⟨rfl, rfl, rfl⟩⟩

omit [DecidableEq κ] in
theorem signed_mem_nodes {E' : List (Edge κ)} {nodes : List κ} (hmem : ∀ e ∈ E', e.1 ∈ nodes ∧ e.2 ∈ nodes)
    {x y : κ} {v : Int} (h : (x, y, v) ∈ signed E') : x ∈ nodes ∧ y ∈ nodes ∧ v ≠ 0 := by
  rcases mem_signed.mp h with ⟨rfl, he⟩ | ⟨rfl, he⟩
  · exact ⟨(hmem _ he).1, (hmem _ he).2, by decide⟩
  · exact ⟨(hmem _ he).2, (hmem _ he).1, by decide⟩

omit [DecidableEq κ] in
/-- without two-cycles the relation has at most one code for a pair of labels -/
theorem signed_unique {E' : List (Edge κ)} (h2 : ∀ a b, (a, b) ∈ E' → (b, a) ∉ E') {x y : κ} {v v' : Int}
    (h : (x, y, v) ∈ signed E') (h' : (x, y, v') ∈ signed E') : v = v' := by
  rcases mem_signed.mp h with ⟨rfl, he⟩ | ⟨rfl, he⟩ <;> rcases mem_signed.mp h' with ⟨rfl, he'⟩ | ⟨rfl, he'⟩
  · rfl
  · exact absurd he' (h2 _ _ he)
  · exact absurd he (h2 _ _ he')
  · rfl

omit [DecidableEq κ] in
/-- A general route to `Represents`: a well-formed row list that stores the signed adjacency relation and nothing else -
a cell reads as a nonzero code iff the relation has that code for its labels.  `hnz` is asked for although no graph query
looks for the code `0`: `Represents` speaks of the column list of EVERY code, and for `0` the read needs it. -/
theorem represents_of_rows {o : Graph.Ord κ} {nodes : List κ} {E' : List (Edge κ)} {rows : List Row} (root : κ)
    (hlen : rows.length = nodes.length) (hwf : RowsWF rows nodes.length) (hnz : NZ rows)
    (hsorted : Sorted o nodes) (hmem : ∀ e ∈ E', e.1 ∈ nodes ∧ e.2 ∈ nodes)
    (hcell : ∀ i j x y, nodes[i]? = some x → nodes[j]? = some y → ∀ v, v ≠ 0 → (dense rows i j = v ↔ (x, y, v) ∈ signed E')) :
    Represents o ⟨root, nodes, (ofRows rows).toMatrix nodes.length nodes.length⟩ E' := by
  let g : MGraph κ := ⟨root, nodes, (ofRows rows).toMatrix nodes.length nodes.length⟩
  have hm : g.m = ofRowsM rows nodes.length := by
    show (ofRows rows).toMatrix nodes.length nodes.length = ofRowsM rows nodes.length
    rw [ofRowsM, hlen]
  have hcols : ∀ (rel : Int) (i : Nat), (g.cols rel i).Nodup ∧
      ∀ c, c ∈ g.cols rel i ↔ i < nodes.length ∧ c < nodes.length ∧ dense rows i c = rel := by
    intro rel i
    by_cases hi : i < nodes.length
    · have hi' : i < rows.length := hlen ▸ hi
      obtain ⟨cs, h1, h2, h3⟩ := colIndicesOfVal_spec_nd rel hwf.toND hnz hi'
      have : g.cols rel i = cs := by unfold MGraph.cols; rw [hm, h1]
      rw [this]
      exact ⟨h2.elim (·.nodup List.nodup_range) (·.nodup (hwf.toND.nodup _ (List.getElem_mem hi'))),
        fun c => by rw [h3 c, and_iff_right hi]⟩
    · have : g.cols rel i = [] := by
        have hn : (ofRowsM rows nodes.length).nrows = nodes.length := hlen
        unfold MGraph.cols
        simp [hm, Matrix.colIndicesOfVal, hn, inRange_cast, hi]
      simp [this, hi]
  have side : ∀ rel, rel ≠ 0 → ∀ i j x, nodes[i]? = some x →
      (j ∈ g.cols rel i ↔ ∃ y, nodes[j]? = some y ∧ (x, y, rel) ∈ signed E') := by
    intro rel hrel i j x hi
    rw [(hcols rel i).2 j, and_iff_right (List.getElem?_eq_some_iff.mp hi).1]
    constructor
    · rintro ⟨hj, hv⟩
      exact ⟨_, List.getElem?_eq_getElem hj, (hcell i j x _ hi (List.getElem?_eq_getElem hj) rel hrel).mp hv⟩
    · rintro ⟨y, hj, hv⟩
      exact ⟨(List.getElem?_eq_some_iff.mp hj).1, (hcell i j x y hi hj rel hrel).mpr hv⟩
  exact ⟨hsorted, hmem,
    fun i j x hi => (side 1 (by decide) i j x hi).trans (exists_congr fun y => and_congr_right fun _ => by simp [mem_signed]),
    fun i j x hi => (side (-1) (by decide) i j x hi).trans (exists_congr fun y => and_congr_right fun _ => by simp [mem_signed]),
    fun r i j hj => (((hcols r i).2 j).mp hj).2.1, fun r i => (hcols r i).1⟩

/-- the assignment `builder[idx a, idx b] = v` -/
def cellOp (o : Graph.Ord κ) (nodes : List κ) (t : κ × κ × Int) : Int × Int × Int :=
  ((idx! o nodes t.1 : Nat), (idx! o nodes t.2.1 : Nat), t.2.2)

theorem builderOps_spec {o : Graph.Ord κ} {nodes : List κ} (hs : o.Strict) (hsorted : Sorted o nodes) {L : List (Edge κ)}
    (hL : ∀ e ∈ L, e.1 ∈ nodes ∧ e.2 ∈ nodes) : builderOps o nodes L = .ok ((signed L).map (cellOp o nodes)) := by
  induction L with
  | nil => rfl
  | cons e rest ih =>
    obtain ⟨h1, h2⟩ := hL e List.mem_cons_self
    have ih' := ih fun x hx => hL x (List.mem_cons_of_mem _ hx)
    unfold builderOps at ih' ⊢
    simp only [List.foldr_cons, ih', indexOf?_idx! hs hsorted h1, indexOf?_idx! hs hsorted h2]
    rfl

section
variable {o : Graph.Ord κ} {owl : κ} {E : List (Edge κ)} {root : κ} {E' : List (Edge κ)}

/-- **The builder-based factory establishes `Represents`** for every rooted edge list without two-cycles (which follows
from acyclicity).  `hloop` is not used: `h2 a a` already excludes self-loops. -/
theorem builder_represents (hs : o.Strict) (hroot : findRoot owl (dedup E) = .ok (root, E'))
    (hloop : ∀ e ∈ E', e.1 ≠ e.2) (h2 : ∀ a b, (a, b) ∈ E' → (b, a) ∉ E') :
    ∃ g, buildBuilder o owl E = .ok g ∧ g.root = root ∧ g.nodes = nodesOf o E' ∧ Represents o g E' := by
  have hsorted : Sorted o (nodesOf o E') := sorted_sortDedup o hs _
  have hmem := mem_nodesOf o E'
  have hops := builderOps_spec hs hsorted hmem
  -- from here on the node array is any sorted list that holds the ends of every edge; as a variable it keeps the terms small
  generalize hnodes : nodesOf o E' = nodes at *
  let ops := (signed E').map (cellOp o nodes)
  obtain ⟨rows, hrun, hlen, hwf, hnz, hdense⟩ := runOps_spec nodes.length nodes.length ops
  have hidx := fun {z i} (hz : z ∈ nodes) => idx!_eq_iff (i := i) hs hsorted hz
  refine ⟨⟨root, nodes, (runOps nodes.length nodes.length ops).toMatrix nodes.length nodes.length⟩,
    by simp only [buildBuilder, hroot, hnodes, hops]; rfl, rfl, rfl, ?_⟩
  rw [hrun]
  refine represents_of_rows root hlen hwf (hnz fun op hin => ?_) hsorted hmem fun i j x y hi hj v hv0 => ?_
  · obtain ⟨t, ht, rfl⟩ := List.mem_map.mp hin
    exact (signed_mem_nodes hmem ht).2.2
  rw [hdense, specOps]
  rcases foldl_stepSpec_cases nodes.length nodes.length ops (fun _ _ => 0) i j with ⟨op, hin, _, ha, hv⟩ | ⟨hno, hv⟩ <;> rw [hv]
  · obtain ⟨⟨a, b, v'⟩, ht, rfl⟩ := List.mem_map.mp hin
    obtain ⟨ha', hb', _⟩ := signed_mem_nodes hmem ht
    simp only [cellOp, Int.toNat_natCast] at ha
    rw [← Option.some.inj (((hidx ha').mp ha.1.symm).symm.trans hi), ← Option.some.inj (((hidx hb').mp ha.2.symm).symm.trans hj)]
    exact ⟨(· ▸ ht), signed_unique h2 ht⟩
  · refine iff_of_false (Ne.symm hv0) fun ht => ?_
    obtain ⟨hx, hy, _⟩ := signed_mem_nodes hmem ht
    refine hno _ (List.mem_map_of_mem ht) ?_ ?_ <;>
      simp only [cellOp, validOp, inRange_cast, (hidx hx).mpr hi, (hidx hy).mpr hj, (List.getElem?_eq_some_iff.mp hi).1,
        (List.getElem?_eq_some_iff.mp hj).1, decide_true, Bool.and_self, Int.toNat_natCast, and_self]

end

/-- what the signed adjacency relation has at `node`: the other end and the code, edge by edge -/
def adjOf (node : κ) (E' : List (Edge κ)) : List (κ × Int) :=
  (signed E').filterMap fun t => if t.1 = node then some t.2 else none

/-- `_preprocess_edges` on the edges collected for `node` -/
theorem preprocess_spec (node : κ) {L : List (Edge κ)} (hloop : ∀ e ∈ L, e.1 ≠ e.2) :
    preprocess node (L.flatMap (ends node)) = .ok (adjOf node L) := by
  induction L with
  | nil => rfl
  | cons e rest ih =>
    obtain ⟨a, b⟩ := e
    have hne : a ≠ b := hloop (a, b) List.mem_cons_self
    have ih' := ih fun x hx => hloop x (List.mem_cons_of_mem _ hx)
    unfold adjOf at ih' ⊢
    simp only [ends, signed, List.flatMap_cons, List.cons_append, List.nil_append, List.filterMap_cons]
    by_cases ha : a = node
    · subst ha
      simp [preprocess, ih', signed, hne, hne.symm, Except.map]
    · by_cases hb : b = node
      · subst hb
        simp [preprocess, ih', signed, ha, Ne.symm ha, Except.map]
      · simp [ha, hb, ih', signed]

section
omit [DecidableEq κ]

theorem mem_insByKey (o : Graph.Ord κ) (x z : κ × Int) (l : List (κ × Int)) : z ∈ insByKey o x l ↔ z = x ∨ z ∈ l := by
  fun_induction insByKey o x l with
  | case1 => exact List.mem_singleton.trans (or_iff_left List.not_mem_nil).symm
  | case2 y ys _ ih => rw [List.mem_cons, ih, List.mem_cons, or_left_comm]
  | case3 => exact List.mem_cons

theorem mem_sortByKey (o : Graph.Ord κ) (z : κ × Int) (l : List (κ × Int)) : z ∈ sortByKey o l ↔ z ∈ l := by
  induction l with
  | nil => exact Iff.rfl
  | cons x xs ih => exact (mem_insByKey o x z _).trans ((or_congr_right ih).trans List.mem_cons.symm)

theorem pairwise_insByKey {o : Graph.Ord κ} (hs : o.Strict) {x : κ × Int} {l : List (κ × Int)}
    (hl : l.Pairwise (fun a b => o.lt a.1 b.1 = true)) (hx : ∀ y ∈ l, y.1 ≠ x.1) :
    (insByKey o x l).Pairwise (fun a b => o.lt a.1 b.1 = true) := by
  fun_induction insByKey o x l with
  | case1 => exact List.pairwise_singleton _ _
  | case2 y ys h ih =>
    obtain ⟨hy, hys⟩ := List.pairwise_cons.mp hl
    exact List.pairwise_cons.mpr ⟨fun z hz => ((mem_insByKey o x z ys).mp hz).elim (· ▸ h) (hy z),
      ih hys fun z hz => hx z (List.mem_cons_of_mem _ hz)⟩
  | case3 y ys h =>
    have hxy : o.lt x.1 y.1 = true :=
      (hs.total x.1 y.1).resolve_right fun h' => h'.elim (fun e => hx y List.mem_cons_self e.symm) h
    exact List.pairwise_cons.mpr ⟨fun z hz => (List.mem_cons.mp hz).elim (· ▸ hxy) fun hz =>
      hs.trans _ _ _ hxy ((List.pairwise_cons.mp hl).1 z hz), hl⟩

theorem pairwise_sortByKey {o : Graph.Ord κ} (hs : o.Strict) {l : List (κ × Int)} (hnd : (l.map Prod.fst).Nodup) :
    (sortByKey o l).Pairwise (fun a b => o.lt a.1 b.1 = true) := by
  induction l with
  | nil => exact .nil
  | cons x xs ih =>
    rw [List.map_cons, List.nodup_cons] at hnd
    refine pairwise_insByKey hs (ih hnd.2) fun y hy heq => ?_
    exact hnd.1 (heq ▸ List.mem_map_of_mem ((mem_sortByKey o y xs).mp hy))

end

/-- the row the factory assembles for `node` -/
def rowOf (o : Graph.Ord κ) (nodes : List κ) (E' : List (Edge κ)) (node : κ) : Row :=
  (sortByKey o (adjOf node E')).map (fun p => (idx! o nodes p.1, p.2))

section
variable {o : Graph.Ord κ} {nodes : List κ} {E' : List (Edge κ)}

theorem mem_sortByKey_adjOf {x z : κ} {v : Int} : (z, v) ∈ sortByKey o (adjOf x E') ↔ (x, z, v) ∈ signed E' := by
  simp only [mem_sortByKey, adjOf, List.mem_filterMap]
  constructor
  · rintro ⟨⟨a, t⟩, ht, h⟩
    split at h
    · next ha => cases h; exact ha ▸ ht
    · cases h
  · exact fun h => ⟨_, h, if_pos rfl⟩

theorem incRows_spec (hs : o.Strict) (hsorted : Sorted o nodes) (hmem : ∀ e ∈ E', e.1 ∈ nodes ∧ e.2 ∈ nodes)
    (hloop : ∀ e ∈ E', e.1 ≠ e.2) (k : Nat) (l : List κ) (hl : nodes.drop k = l) :
    incRows o nodes (findAdjacent o nodes E') k l = .ok (l.map (rowOf o nodes E')) := by
  induction l generalizing k with
  | nil => rfl
  | cons node rest ih =>
    have hrest := ih (k + 1) (by rw [← List.drop_drop, hl]; rfl)
    have hall := allSome_map (sortByKey o (adjOf node E')) (Prod.fst ∘ fun p => (indexOf? o nodes p.1, p.2))
      (fun p => idx! o nodes p.1) fun p hp => indexOf?_idx! hs hsorted (signed_mem_nodes hmem (mem_sortByKey_adjOf.mp hp)).2.1
    rw [incRows, findAdjacent_row hs hsorted E' k node (by rw [← Nat.add_zero k, ← List.getElem?_drop, hl]; rfl),
      preprocess_spec node hloop]
    simp only [List.map_map, hall, hrest, List.map_cons, List.zip_map']
    rfl

theorem mem_rowOf (x : κ) (j : Nat) (v : Int) :
    (j, v) ∈ rowOf o nodes E' x ↔ ∃ z, (x, z, v) ∈ signed E' ∧ idx! o nodes z = j := by
  simp only [rowOf, List.mem_map, Prod.mk.injEq, Prod.exists, mem_sortByKey_adjOf]
  constructor
  · rintro ⟨z, _, h, hz, rfl⟩
    exact ⟨z, h, hz⟩
  · rintro ⟨z, h, hz⟩
    exact ⟨z, v, h, hz, rfl⟩

theorem adjOf_keys_nodup (hnd : E'.Nodup) (hloop : ∀ e ∈ E', e.1 ≠ e.2) (h2 : ∀ a b, (a, b) ∈ E' → (b, a) ∉ E') (x : κ) :
    ((adjOf x E').map Prod.fst).Nodup := by
  -- no ordered pair of labels occurs twice in `signed E'`
  have key : (signed E').Pairwise fun t t' => (t.1, t.2.1) ≠ (t'.1, t'.2.1) := by
    refine List.pairwise_flatMap.mpr ⟨fun e he => ?_, hnd.imp_of_mem fun {e e'} he he' hne => ?_⟩
    · exact List.pairwise_pair.mpr fun h => hloop e he (Prod.mk.inj h).1
    · simp only [List.mem_cons, List.not_mem_nil, or_false]
      rintro t (rfl | rfl) t' (rfl | rfl) h <;> simp only [Prod.mk.injEq] at h
      · exact hne (Prod.ext h.1 h.2)
      · exact h2 _ _ he (by rw [h.1, h.2]; exact he')
      · exact h2 _ _ he' (by rw [← h.1, ← h.2]; exact he)
      · exact hne (Prod.ext h.2 h.1)
  refine List.pairwise_map.mpr (List.pairwise_filterMap.mpr (key.imp fun {t t'} hne b hb b' hb' hbb => hne ?_))
  rw [Option.ite_none_right_eq_some] at hb hb'
  exact Prod.ext (hb.1.trans hb'.1.symm) (Option.some.inj hb.2 ▸ Option.some.inj hb'.2 ▸ hbb)

theorem rowOf_sorted (hs : o.Strict) (hsorted : Sorted o nodes) (hmem : ∀ e ∈ E', e.1 ∈ nodes ∧ e.2 ∈ nodes)
    (hnd : E'.Nodup) (hloop : ∀ e ∈ E', e.1 ≠ e.2) (h2 : ∀ a b, (a, b) ∈ E' → (b, a) ∉ E') (x : κ) :
    SortedRow (rowOf o nodes E' x) := by
  unfold SortedRow rowOf
  rw [List.map_map, List.pairwise_map]
  exact (pairwise_sortByKey hs (adjOf_keys_nodup hnd hloop h2 x)).imp_of_mem fun ha hb hab =>
    idx!_mono hs hsorted (signed_mem_nodes hmem (mem_sortByKey_adjOf.mp ha)).2.1
      (signed_mem_nodes hmem (mem_sortByKey_adjOf.mp hb)).2.1 hab

variable {owl : κ} {E : List (Edge κ)} {root : κ}

/-- **The incremental factory establishes `Represents`** for every rooted edge list without self-loops and without
two-cycles (both follow from acyclicity). -/
theorem incremental_represents (hs : o.Strict) (hroot : findRoot owl (dedup E) = .ok (root, E'))
    (hloop : ∀ e ∈ E', e.1 ≠ e.2) (h2 : ∀ a b, (a, b) ∈ E' → (b, a) ∉ E') :
    ∃ g, buildIncremental o owl E = .ok g ∧ g.root = root ∧ g.nodes = nodesOf o E' ∧ Represents o g E' := by
  have hnd : E'.Nodup := rooted_nodup hroot
  have hsorted : Sorted o (nodesOf o E') := sorted_sortDedup o hs _
  have hmem := mem_nodesOf o E'
  have hrows := incRows_spec hs hsorted hmem hloop 0 (nodesOf o E') rfl
  generalize hnodes : nodesOf o E' = nodes at *
  have hidx := fun {z i} (hz : z ∈ nodes) => idx!_eq_iff (i := i) hs hsorted hz
  have hrow := fun x => mem_rowOf (o := o) (nodes := nodes) (E' := E') x
  have hrs := rowOf_sorted hs hsorted hmem hnd hloop h2
  refine ⟨⟨root, nodes, (ofRows (nodes.map (rowOf o nodes E'))).toMatrix nodes.length nodes.length⟩,
    by simp only [buildIncremental, hroot, hnodes, hrows], rfl, rfl, ?_⟩
  refine represents_of_rows root (List.length_map ..) ⟨?_, ?_⟩ ?_ hsorted hmem fun i j x y hi hj v hv0 => ?_
  · exact List.forall_mem_map.mpr fun x _ => hrs x
  · refine List.forall_mem_map.mpr fun x _ p hp => ?_
    obtain ⟨z, hsg, hz⟩ := (hrow x p.1 p.2).mp hp
    exact (List.getElem?_eq_some_iff.mp ((hidx (signed_mem_nodes hmem hsg).2.1).mp hz)).1
  · refine List.forall_mem_map.mpr fun x _ p hp => ?_
    obtain ⟨z, hsg, _⟩ := (hrow x p.1 p.2).mp hp
    exact (signed_mem_nodes hmem hsg).2.2
  · have hget : (nodes.map (rowOf o nodes E')).getD i [] = rowOf o nodes E' x := by
      rw [List.getD_eq_getElem?_getD, List.getElem?_map, hi]; rfl
    rw [dense, hget, firstOf_eq_iff (hrs x).nodup j hv0, hrow]
    constructor
    · rintro ⟨z, hsg, hz⟩
      rw [hidx (signed_mem_nodes hmem hsg).2.1, hj, Option.some.injEq] at hz
      exact hz ▸ hsg
    · exact fun hsg => ⟨y, hsg, (hidx (signed_mem_nodes hmem hsg).2.1).mpr hj⟩

/-- **What every shipped graph answers.**  On an acyclic rooted edge list each of the three factories succeeds, with the
sorted endpoints as node array and the given root; every query returns each node asked for once and nothing else, and
with `include_source` the source once more. -/
theorem factories_spec (hs : o.Strict) (hroot : findRoot owl (dedup E) = .ok (root, E'))
    (hacyc : ∀ x, ¬ Relation.TransGen (fun a b => (a, b) ∈ E') x x) (f : Factory) :
    ∃ G, build o owl f E = .ok G ∧ G.nodes = nodesOf o E' ∧ G.root = .ok root ∧ ∀ (q : Q) (v : κ), v ∈ G.nodes →
      ∃ res, G.query o q (some v) false = .ok res ∧ res.Nodup ∧ (∀ x, x ∈ res ↔ q.answer E' v x) ∧
        ∃ res', G.query o q (some v) true = .ok res' ∧ res'.Perm (v :: res) := by
  obtain ⟨hloop, h2, hirr⟩ := simple_of_acyclic hacyc
  cases f
  case indexed =>
    obtain ⟨g, hg, hn, hr⟩ : ∃ g, buildIndexed o owl E = .ok g ∧ g.nodes = nodesOf o E' ∧ g.idxToNode g.root = .ok root := by
      obtain ⟨r, hr, hg⟩ := buildIndexed_spec hs hroot hloop
      exact ⟨_, hg, rfl, IGraph.idxToNode_ok _ hr⟩
    refine ⟨.ix g, congrArg (Except.map G.ix) hg, hn, hr, fun q v hv => ?_⟩
    obtain ⟨res, hq, hnd, hm⟩ := BuiltIx.query_spec ⟨hs, hroot, hloop, hg⟩ q hv
    exact ⟨res, hq false, hnd, hm, _, hq true, .refl _⟩
  case incremental =>
    obtain ⟨g, hg, rfl, hn, hrep⟩ := incremental_represents hs hroot hloop h2
    exact ⟨.mx g, congrArg (Except.map G.mx) hg, hn, rfl, fun q v hv => hrep.query_perm hs hloop q (hirr q v) hv⟩
  case builder =>
    obtain ⟨g, hg, rfl, hn, hrep⟩ := builder_represents hs hroot hloop h2
    exact ⟨.mx g, congrArg (Except.map G.mx) hg, hn, rfl, fun q v hv => hrep.query_perm hs hloop q (hirr q v) hv⟩

end
end Hpv.GM
