import Hpv.StoreTrace

/-
Every operation is one or two updates of a path, and an update keeps `Inv` when what it puts at a cache location is the
remote's copy (`inv_upd`).
-/
namespace Hpv.StoreTrace

theorem inv_upd {remote : Nat → Option Bytes} {fs : FS} (h : Inv remote fs) {p : Path} {v : Option Bytes}
    (hv : ∀ k c, p = .cache k → v = some c → remote k = some c) : Inv remote (upd fs p v) := by
  intro k c hc
  unfold upd at hc
  split at hc
  · next e => exact hv k c e.symm hc
  · exact h k c hc

theorem inv_step (remote : Nat → Option Bytes) (fs : FS) (op : Op) (h : Inv remote fs) (hok : okOp remote fs op = true) :
    Inv remote (step fs op) := by
  fun_cases step fs op with
  | case1 p => exact inv_upd h fun k _ e => by subst e; cases hok          -- create
  | case2 p b c hc => exact inv_upd h fun k _ e => by subst e; cases hok   -- append to a file that exists
  | case4 s d c hs =>                                                       -- rename of a file that exists
    refine inv_upd (inv_upd h ?_) fun _ _ _ e => nomatch e
    rintro k _ rfl ⟨⟩
    simp only [okOp, hs] at hok
    exact eq_of_beq hok
  | case6 p => exact inv_upd h fun _ _ _ e => nomatch e                     -- remove
  | _ => exact h                                                            -- the file system stays as it is

/-- a prefix of the trace is what a crash at that point leaves -/
theorem inv_run_take (remote : Nat → Option Bytes) (fs : FS) (ops : List Op) (n : Nat) (h : Inv remote fs)
    (hd : Disciplined remote fs ops = true) : Inv remote (run fs (ops.take n)) := by
  fun_induction Disciplined remote fs ops generalizing n with
  | case1 => rw [List.take_nil]; exact h
  | case2 fs op ops ih =>
    rw [Bool.and_eq_true] at hd
    cases n with
    | zero => exact h
    | succ n => exact ih n (inv_step remote fs op h hd.1) hd.2

theorem inv_run (remote : Nat → Option Bytes) (fs : FS) (ops : List Op) (h : Inv remote fs)
    (hd : Disciplined remote fs ops = true) : Inv remote (run fs ops) :=
  List.take_length (l := ops) ▸ inv_run_take remote fs ops ops.length h hd

theorem firstBad_none (remote : Nat → Option Bytes) (fs : FS) (ops : List Op) (i : Nat) :
    firstBad remote fs ops i = none ↔ Disciplined remote fs ops = true := by
  induction ops generalizing fs i with
  | nil => exact ⟨fun _ => rfl, fun _ => rfl⟩
  | cons op ops ih =>
    unfold firstBad Disciplined
    cases okOp remote fs op with
    | true => exact ih _ _
    | false => exact ⟨nofun, nofun⟩

theorem inv_empty (remote : Nat → Option Bytes) : Inv remote emptyFS := nofun

end Hpv.StoreTrace
