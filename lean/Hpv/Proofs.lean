import Hpv.Basic

namespace Hpv

structure Pop.Lawful (P : Pop) : Prop where
  none_iff : ∀ b, P.pop b = none ↔ b = []
  perm : ∀ b x b', P.pop b = some (x, b') → List.Perm b (x :: b')

theorem popQueue_lawful : popQueue.Lawful := by
  refine ⟨fun b => ?_, fun b x b' h => ?_⟩
  · cases b <;> simp only [popQueue, reduceCtorEq, List.cons_ne_nil]
  · cases b with
    | nil => cases h
    | cons y r => cases h; exact .refl _

theorem popStack_lawful : popStack.Lawful := by
  refine ⟨fun b => ?_, fun b x b' h => ?_⟩
  · unfold popStack
    dsimp only
    split
    · next h => exact ⟨fun _ => List.getLast?_eq_none_iff.mp h, fun _ => rfl⟩
    · next h => exact ⟨nofun, fun hb => by subst hb; cases h⟩
  · unfold popStack at h
    dsimp only at h
    split at h
    · cases h
    · next hl =>
      cases h
      obtain ⟨ys, rfl⟩ := List.getLast?_eq_some_iff.mp hl
      rw [List.dropLast_concat]
      exact List.perm_append_singleton _ ys

theorem pushNew_spec (row seen buf : List Nat) :
    ∃ new, pushNew row seen buf = (new.reverse ++ seen, buf ++ new) ∧ new.Nodup ∧ ∀ x, x ∈ new ↔ x ∈ row ∧ x ∉ seen := by
  fun_induction pushNew row seen buf with
  | case1 seen buf => exact ⟨[], by rw [List.append_nil]; rfl, .nil, fun x => ⟨nofun, fun h => nomatch h.1⟩⟩
  | case2 i rest seen buf hi ih =>
    obtain ⟨new, h1, h2, h3⟩ := ih
    exact ⟨new, h1, h2, fun x => (h3 x).trans ⟨fun h => ⟨.tail _ h.1, h.2⟩, fun h =>
      ⟨(List.mem_cons.mp h.1).resolve_left fun e => h.2 (e ▸ hi), h.2⟩⟩⟩
  | case3 i rest seen buf hi ih =>
    obtain ⟨new, h1, h2, h3⟩ := ih
    refine ⟨i :: new, by rw [h1, List.reverse_cons, List.append_assoc, List.append_assoc]; rfl,
      List.nodup_cons.mpr ⟨fun hin => ((h3 i).mp hin).2 List.mem_cons_self, h2⟩, fun x => ?_⟩
    rw [List.mem_cons, List.mem_cons, h3, List.mem_cons, not_or]
    constructor
    · rintro (rfl | ⟨h, _, hs⟩)
      · exact ⟨.inl rfl, hi⟩
      · exact ⟨.inr h, hs⟩
    · rintro ⟨h, hs⟩
      exact (Nat.decEq x i).byCases .inl fun e => .inr ⟨h.resolve_left e, e, hs⟩

theorem nodup_pushed {new seen : List Nat} (hs : seen.Nodup) (hn : new.Nodup) (h : ∀ x, x ∈ new → x ∉ seen) :
    (new.reverse ++ seen).Nodup :=
  List.nodup_append.mpr ⟨(List.reverse_perm new).symm.nodup hn, hs, fun a ha _ hb e => h a (List.mem_reverse.mp ha) (e ▸ hb)⟩

/-- one iteration rearranges the bookkeeping `seen ~ buf ++ out` -/
theorem perm_step {seen buf out buf' new : List Nat} {cur : Nat} (h : seen.Perm (buf ++ out)) (hpop : buf.Perm (cur :: buf')) :
    (new.reverse ++ seen).Perm ((buf' ++ new) ++ (out ++ [cur])) := by
  -- new.reverse ++ seen ~ new ++ cur :: (buf' ++ out) ~ cur :: ((buf' ++ new) ++ out) ~ (buf' ++ new) ++ (out ++ [cur])
  have e : new ++ (buf' ++ out) = (new ++ buf') ++ out := (List.append_assoc ..).symm
  rw [← List.append_assoc]
  exact (((List.reverse_perm new).append (h.trans (hpop.append_right out))).trans List.perm_middle).trans
    ((List.Perm.cons cur (e ▸ List.perm_append_comm.append_right out)).trans (List.perm_append_singleton cur _).symm)

/-- the generator's start-up loop is `pushNew` without a buffer -/
theorem pushNew_fst (row seen buf : List Nat) : (pushNew row seen buf).1 = dedupInto row seen := by
  fun_induction pushNew row seen buf with
  | case1 => rfl
  | case2 _ _ _ _ hi ih => rw [dedupInto, if_pos hi, ih]
  | case3 _ _ _ _ hi ih => rw [dedupInto, if_neg hi, ih]

/-- the initial `seen`: the first row without its repeats -/
theorem dedupInto_nil (row : List Nat) :
    (dedupInto row []).Nodup ∧ (∀ x, x ∈ dedupInto row [] ↔ x ∈ row) ∧ (row.Nodup → (dedupInto row []).Perm row) := by
  obtain ⟨new, h1, h2, h3⟩ := pushNew_spec row [] []
  have e : dedupInto row [] = new.reverse := by rw [← pushNew_fst row [] [], h1, List.append_nil]
  have hnd : new.reverse.Nodup := (List.reverse_perm new).symm.nodup h2
  have hmem : ∀ x, x ∈ new.reverse ↔ x ∈ row := fun x =>
    List.mem_reverse.trans ((h3 x).trans (and_iff_left List.not_mem_nil))
  rw [e]
  exact ⟨hnd, hmem, fun hr => (List.perm_ext_iff_of_nodup hnd hr).mpr hmem⟩

/-- Edge relation induced by the successor function. -/
def R (succ : Nat → List Nat) (a b : Nat) : Prop := b ∈ succ a

abbrev Reach (succ : Nat → List Nat) := Relation.TransGen (R succ)

/-- what a worklist that starts with `init` in the buffer can yield: `init` and everything downstream of it -/
inductive ReachFrom (succ : Nat → List Nat) (init : List Nat) : Nat → Prop
  | init {x} : x ∈ init → ReachFrom succ init x
  | step {x y} : ReachFrom succ init x → y ∈ succ x → ReachFrom succ init y

/-- strict reachability from `src` is reachability from its row -/
theorem reachFrom_row {succ : Nat → List Nat} {src x : Nat} : ReachFrom succ (succ src) x ↔ Reach succ src x := by
  constructor <;> intro h
  · induction h with
    | init h => exact .single h
    | step _ h ih => exact .tail ih h
  · induction h with
    | single h => exact .init h
    | tail _ h ih => exact .step ih h

/-- with the source in front of its row: the source, and what is strictly reachable from it -/
theorem reachFrom_cons_row {succ : Nat → List Nat} {i x : Nat} : ReachFrom succ (i :: succ i) x ↔ x = i ∨ Reach succ i x := by
  constructor
  · intro h
    induction h with
    | init h => exact (List.mem_cons.mp h).imp id .single
    | step _ h ih => exact .inr (ih.elim (fun e => .single (e ▸ h)) (.tail · h))
  · rintro (rfl | h)
    · exact .init List.mem_cons_self
    · induction h with
      | single h => exact .init (List.mem_cons_of_mem _ h)
      | tail _ h ih => exact .step ih h

/-- The loop invariant for a worklist started with the buffer `init`: `seen` is `buf ∪ out`, all of it below `n` and reachable from
`init`; `out` is closed under `succ`, and `init` is in `seen`. -/
structure InvFrom (succ : Nat → List Nat) (n : Nat) (init seen buf out : List Nat) : Prop where
  nodup : seen.Nodup
  cover : ∀ x, x ∈ seen ↔ x ∈ buf ∨ x ∈ out
  sound : ∀ x, x ∈ seen → x < n ∧ ReachFrom succ init x
  closed : ∀ x, x ∈ out → ∀ y, y ∈ succ x → y ∈ seen
  init : ∀ y, y ∈ init → y ∈ seen

theorem InvFrom.start {succ : Nat → List Nat} {n : Nat} {init : List Nat} (hinit : ∀ x ∈ init, x < n) :
    InvFrom succ n init (dedupInto init []) init [] :=
  have ⟨h1, h2, _⟩ := dedupInto_nil init
  ⟨h1, fun x => (h2 x).trans (or_iff_left List.not_mem_nil).symm,
    fun x hx => ⟨hinit x ((h2 x).mp hx), .init ((h2 x).mp hx)⟩, nofun, fun y hy => (h2 y).mpr hy⟩

theorem InvFrom.step {succ : Nat → List Nat} {n : Nat} (hbound : ∀ a b, b ∈ succ a → b < n)
    {init seen buf out : List Nat} {cur : Nat} {buf' new : List Nat} (hinv : InvFrom succ n init seen buf out)
    (hperm : buf.Perm (cur :: buf')) (hnd : new.Nodup) (hnew : ∀ x, x ∈ new ↔ x ∈ succ cur ∧ x ∉ seen) :
    InvFrom succ n init (new.reverse ++ seen) (buf' ++ new) (out ++ [cur]) where
  nodup := nodup_pushed hinv.nodup hnd fun x hx => ((hnew x).mp hx).2
  cover x := by
    -- `perm_step` read on members, for the lists `buf ++ out` and `(buf' ++ new) ++ (out ++ [cur])`
    rw [← List.mem_append, ← (perm_step (.refl _) hperm).mem_iff, List.mem_append, List.mem_append, List.mem_append, hinv.cover]
  sound x hx :=
    (List.mem_append.mp hx).elim
      (fun h => have hx' := ((hnew x).mp (List.mem_reverse.mp h)).1
        ⟨hbound _ _ hx', .step (hinv.sound cur ((hinv.cover cur).mpr (.inl (hperm.mem_iff.mpr List.mem_cons_self)))).2 hx'⟩)
      (hinv.sound x)
  closed x hx y hy :=
    (List.mem_append.mp hx).elim (fun h => List.mem_append_right _ (hinv.closed x h y hy)) fun h =>
      if hs : y ∈ seen then List.mem_append_right _ hs
      else List.mem_append_left _ (List.mem_reverse.mpr ((hnew y).mpr ⟨List.mem_singleton.mp h ▸ hy, hs⟩))
  init y hy := List.mem_append_right _ (hinv.init y hy)

theorem InvFrom.exit {succ : Nat → List Nat} {n : Nat} {init seen out : List Nat} (hinv : InvFrom succ n init seen [] out) (x : Nat) :
    x ∈ out ↔ ReachFrom succ init x := by
  have out_iff : ∀ y, y ∈ seen ↔ y ∈ out := fun y => (hinv.cover y).trans (or_iff_right List.not_mem_nil)
  refine ⟨fun hx => (hinv.sound x ((out_iff x).mpr hx)).2, fun hr => (out_iff x).mp ?_⟩
  induction hr with
  | init h => exact hinv.init _ h
  | step _ hbc ih => exact hinv.closed _ ((out_iff _).mp ih) _ hbc

/-- The fuel suffices when `buf.length + n < fuel + seen.length`: every iteration keeps this (a pop takes one unit from each side, a
pushed node enters `buf` and `seen` at once), and it cannot hold with no fuel left, since `seen`, duplicate-free and below `n`, has at
most `n` members. -/
theorem loop_of_invFrom (P : Pop) (hP : P.Lawful) (succ : Nat → List Nat) (n : Nat) (init : List Nat)
    (hbound : ∀ a b, b ∈ succ a → b < n) (fuel : Nat) (seen buf out : List Nat) :
    InvFrom succ n init seen buf out → buf.length + n < fuel + seen.length →
      ∃ res, loop P succ fuel seen buf out = some res ∧ ∀ x, x ∈ res ↔ ReachFrom succ init x := by
  fun_induction loop P succ fuel seen buf out with
  | case1 seen buf out =>
    intro hinv h
    have hle := hinv.nodup.length_le_of_subset fun x hx => List.mem_range.mpr (hinv.sound x hx).1
    rw [List.length_range] at hle
    rw [Nat.zero_add] at h
    exact absurd (Nat.lt_of_lt_of_le h hle) (Nat.not_lt.mpr (Nat.le_add_left ..))
  | case2 fuel seen buf out hp =>
    intro hinv _
    cases (hP.none_iff buf).mp hp
    exact ⟨out, rfl, hinv.exit⟩
  | case3 fuel seen buf out cur buf' hp sb ih =>
    intro hinv hfuel
    obtain ⟨new, hpn, hnd, hnew⟩ := pushNew_spec (succ cur) seen buf'
    simp only [sb, hpn] at ih ⊢
    have hperm := hP.perm buf cur buf' hp
    refine ih (hinv.step hbound hperm hnd hnew) ?_
    rw [hperm.length_eq, List.length_cons, Nat.add_right_comm _ 1, Nat.add_right_comm _ 1] at hfuel
    rw [List.length_append, List.length_append, List.length_reverse, Nat.add_right_comm, Nat.add_comm new.length, ← Nat.add_assoc]
    exact Nat.add_lt_add_right (Nat.lt_of_succ_lt_succ hfuel) _

/-- With the bookkeeping `seen ~ buf ++ out` every node is yielded once. This cannot be a field of `InvFrom`: it fails when the
initial buffer repeats a node, and `traverse_correct` holds without that hypothesis. -/
theorem loop_nodup (P : Pop) (hP : P.Lawful) (succ : Nat → List Nat) (fuel : Nat) (seen buf out res : List Nat) :
    seen.Nodup → seen.Perm (buf ++ out) → loop P succ fuel seen buf out = some res → res.Nodup := by
  fun_induction loop P succ fuel seen buf out with
  | case1 => intro _ _ h; cases h
  | case2 fuel seen buf out hp =>
    intro hnd hperm h
    cases h
    cases (hP.none_iff buf).mp hp
    exact hperm.nodup hnd
  | case3 fuel seen buf out cur buf' hp sb ih =>
    intro hnd hperm h
    obtain ⟨new, hpn, hndn, hnew⟩ := pushNew_spec (succ cur) seen buf'
    simp only [sb, hpn] at ih h
    exact ih (nodup_pushed hnd hndn fun x hx => ((hnew x).mp hx).2) (perm_step hperm (hP.perm buf cur buf' hp)) h

theorem loopFrom_nodup (P : Pop) (hP : P.Lawful) (succ : Nat → List Nat) (fuel : Nat) {init res : List Nat} (h0 : init.Nodup)
    (h : loop P succ fuel (dedupInto init []) init [] = some res) : res.Nodup :=
  have ⟨hd, _, hperm⟩ := dedupInto_nil init
  loop_nodup P hP succ _ _ _ _ res hd ((List.append_nil _).symm ▸ hperm h0) h

/-- **The worklist started with any buffer `init`** of nodes below `n` yields exactly `init` and what is reachable from it, each node
once when `init` has no repeats. `traverse` is the case `init = succ src`, `include_source` of the matrix graphs the case
`init = src :: succ src`. -/
theorem loopFrom_spec (P : Pop) (hP : P.Lawful) (succ : Nat → List Nat) (n : Nat) (init : List Nat)
    (hbound : ∀ a b, b ∈ succ a → b < n) (hinit : ∀ x ∈ init, x < n) :
    ∃ res, loop P succ (init.length + n + 1) (dedupInto init []) init [] = some res ∧
      (∀ x, x ∈ res ↔ ReachFrom succ init x) ∧ (init.Nodup → res.Nodup) :=
  have ⟨res, h, hm⟩ := loop_of_invFrom P hP succ n init hbound _ _ _ _ (InvFrom.start hinit)
    (Nat.lt_of_lt_of_le (Nat.lt_succ_self _) (Nat.le_add_right ..))
  ⟨res, h, hm, fun h0 => loopFrom_nodup P hP succ _ h0 h⟩

/-- Each reachable node is yielded exactly once when the first row has no repeats. -/
theorem traverse_nodup (P : Pop) (hP : P.Lawful) (succ : Nat → List Nat) (n src : Nat)
    (h0 : (succ src).Nodup) (res : List Nat) (h : traverse P succ n src = some res) : res.Nodup :=
  loopFrom_nodup P hP succ _ h0 h

/-- The traversal returns exactly the nodes reachable over one or more edges. -/
theorem traverse_correct (P : Pop) (hP : P.Lawful) (succ : Nat → List Nat) (n src : Nat)
    (hbound : ∀ a b, b ∈ succ a → b < n) :
    ∃ res, traverse P succ n src = some res ∧ ∀ x, x ∈ res ↔ Reach succ src x :=
  have ⟨res, h, hm, _⟩ := loopFrom_spec P hP succ n (succ src) hbound (hbound src)
  ⟨res, h, fun x => (hm x).trans reachFrom_row⟩

/-- `InvFrom` for the buffer `succ src`, with strict reachability from `src` in place of reachability from the buffer -/
structure Inv (succ : Nat → List Nat) (n src : Nat) (seen buf out : List Nat) : Prop where
  nodup : seen.Nodup
  cover : ∀ x, x ∈ seen ↔ x ∈ buf ∨ x ∈ out
  sound : ∀ x, x ∈ seen → x < n ∧ Reach succ src x
  closed : ∀ x, x ∈ out → ∀ y, y ∈ succ x → y ∈ seen
  init : ∀ y, y ∈ succ src → y ∈ seen

theorem Inv.from {succ : Nat → List Nat} {n src : Nat} {seen buf out : List Nat} (h : Inv succ n src seen buf out) :
    InvFrom succ n (succ src) seen buf out :=
  ⟨h.nodup, h.cover, fun x hx => ⟨(h.sound x hx).1, reachFrom_row.mpr (h.sound x hx).2⟩, h.closed, h.init⟩

theorem loop_correct (P : Pop) (hP : P.Lawful) (succ : Nat → List Nat) (n src : Nat)
    (hbound : ∀ a b, b ∈ succ a → b < n) :
    ∀ fuel seen buf out, Inv succ n src seen buf out →
      buf.length + n < fuel + seen.length →
      ∃ res, loop P succ fuel seen buf out = some res ∧ ∀ x, x ∈ res ↔ Reach succ src x := fun fuel seen buf out hinv hfuel =>
  have ⟨res, h, hm⟩ := loop_of_invFrom P hP succ n (succ src) hbound fuel seen buf out hinv.from hfuel
  ⟨res, h, fun x => (hm x).trans reachFrom_row⟩

end Hpv
