/-
A `Counter` is an association list read by `lookupCount`; every count that `rawCounts`, `withPseudo`, `counts` store is
positive, so the keys are the terms with a positive count.  The counting argument: a term is counted once for every
annotation that has it among its (duplicate-free) ancestors, hence never more often than one of its ancestors.
-/
import Hpv.Ic
import Hpv.ListFacts

namespace Hpv.Ic
variable {κ : Type} [DecidableEq κ]

theorem mem_dedup (l : List κ) (x : κ) : x ∈ dedup l ↔ x ∈ l := (dedup_spec dedup rfl (fun _ _ => rfl) l).2 x

theorem nodup_dedup (l : List κ) : (dedup l).Nodup := (dedup_spec dedup rfl (fun _ _ => rfl) l).1

theorem mem_map_fst_iff_find? (cs : List (κ × Nat)) (t : κ) :
    t ∈ cs.map (·.1) ↔ (cs.find? (fun p => p.1 = t)).isSome := by
  simp only [List.mem_map, List.find?_isSome, decide_eq_true_eq]

theorem lookupCount_append (cs ds : List (κ × Nat)) (t : κ) :
    lookupCount (cs ++ ds) t = if t ∈ cs.map (·.1) then lookupCount cs t else lookupCount ds t := by
  unfold lookupCount
  simp only [List.find?_append, mem_map_fst_iff_find?]
  cases cs.find? (fun p => decide (p.1 = t)) <;> rfl

theorem lookupCount_pos_iff {cs : List (κ × Nat)} (hpos : ∀ p ∈ cs, 0 < p.2) (t : κ) :
    0 < lookupCount cs t ↔ t ∈ cs.map (·.1) := by
  unfold lookupCount
  rw [mem_map_fst_iff_find?]
  cases h : cs.find? (fun p => decide (p.1 = t)) with
  | none => exact ⟨fun h => absurd h (Nat.lt_irrefl 0), nofun⟩
  | some p => exact ⟨fun _ => rfl, fun _ => hpos p (List.mem_of_find?_eq_some h)⟩

theorem lookupCount_map (L : List κ) (f : κ → Nat) (t : κ) :
    lookupCount (L.map fun x => (x, f x)) t = if t ∈ L then f t else 0 := by
  unfold lookupCount
  induction L with
  | nil => rfl
  | cons a rest ih =>
    rw [List.map_cons, List.find?_cons]
    by_cases h : a = t
    · subst h; simp only [decide_true, Option.map_some, Option.getD_some, List.mem_cons, true_or, if_true]
    · simp only [h, decide_false, ih, List.mem_cons, Ne.symm h, false_or]

theorem lookupCount_rawCounts (incs : List κ) (t : κ) : lookupCount (rawCounts incs) t = incs.count t := by
  rw [rawCounts, lookupCount_map]
  split
  · rfl
  · next h => exact (List.count_eq_zero.mpr fun hh => h ((mem_dedup incs t).mpr hh)).symm

theorem keys_rawCounts (incs : List κ) : (rawCounts incs).map (·.1) = dedup incs := by
  rw [rawCounts, List.map_map]; exact List.map_id _

theorem rawCounts_pos (incs : List κ) : ∀ p ∈ rawCounts incs, 0 < p.2 := by
  intro p hp
  obtain ⟨t, ht, rfl⟩ := List.mem_map.mp hp
  exact List.count_pos_iff.mpr ((mem_dedup incs t).mp ht)

theorem lookupCount_withPseudo (cs : List (κ × Nat)) (univ : List κ) (t : κ) :
    lookupCount (withPseudo cs univ) t =
      if t ∈ cs.map (·.1) then lookupCount cs t else if t ∈ univ then 1 else 0 := by
  rw [withPseudo, lookupCount_append]
  by_cases h : t ∈ cs.map (·.1)
  · rw [if_pos h, if_pos h]
  · have hc : (cs.map (·.1)).contains t = false := Bool.eq_false_iff.mpr (mt List.contains_iff_mem.mp h)
    rw [if_neg h, if_neg h, lookupCount_map _ (fun _ => 1)]
    simp only [List.mem_filter, mem_dedup, hc, Bool.not_false, and_true]

theorem withPseudo_pos {cs : List (κ × Nat)} (h : ∀ p ∈ cs, 0 < p.2) (univ : List κ) : ∀ p ∈ withPseudo cs univ, 0 < p.2 := by
  intro p hp
  rcases List.mem_append.mp hp with hp | hp
  · exact h p hp
  · obtain ⟨t, _, rfl⟩ := List.mem_map.mp hp
    exact Nat.one_pos

theorem counts_eq (anc : κ → List κ) (mod : Option (List κ)) (univ : List κ) (pseudo : Bool)
    (items : List (List (κ × Bool))) :
    counts anc mod univ pseudo items =
      if pseudo then withPseudo (rawCounts (increments anc mod (presentIds items))) (corpus mod univ)
      else rawCounts (increments anc mod (presentIds items)) := rfl

theorem lookupCount_final (incs univ : List κ) (pseudo : Bool) (t : κ) :
    lookupCount (if pseudo then withPseudo (rawCounts incs) univ else rawCounts incs) t =
      if 0 < incs.count t then incs.count t else if pseudo = true ∧ t ∈ univ then 1 else 0 := by
  cases pseudo with
  | false =>
    rw [if_neg Bool.false_ne_true, lookupCount_rawCounts]
    simp only [Bool.false_eq_true, false_and, if_false]
    split
    · rfl
    · next h => exact Nat.eq_zero_of_not_pos h
  | true =>
    rw [if_pos rfl, lookupCount_withPseudo, keys_rawCounts, lookupCount_rawCounts]
    simp only [mem_dedup, List.count_pos_iff, true_and]

theorem final_pos (incs univ : List κ) (pseudo : Bool) :
    ∀ p ∈ (if pseudo then withPseudo (rawCounts incs) univ else rawCounts incs), 0 < p.2 := by
  cases pseudo with
  | false => exact rawCounts_pos incs
  | true => exact withPseudo_pos (rawCounts_pos incs) univ

theorem count_flatMap_of_nodup {α} {l : List α} {f : α → List κ} (h : ∀ a ∈ l, (f a).Nodup) (t : κ) :
    (l.flatMap f).count t = l.countP (fun a => decide (t ∈ f a)) := by
  induction l with
  | nil => rfl
  | cons a rest ih =>
    obtain ⟨ha, hrest⟩ := List.forall_mem_cons.mp h
    rw [List.flatMap_cons, List.count_append, ih hrest, List.countP_cons, ha.count, Nat.add_comm]
    simp only [decide_eq_true_eq]

theorem count_increments {anc : κ → List κ} (mod : Option (List κ)) (anns : List κ) (t : κ)
    (hnd : ∀ a, (anc a).Nodup) :
    (increments anc mod anns).count t =
      if inModule mod t then (anns.filter (inModule mod)).countP (fun a => decide (t ∈ anc a)) else 0 := by
  rw [increments, count_flatMap_of_nodup (fun a _ => (hnd a).filter _)]
  simp only [List.mem_filter]
  split
  · next hm => simp only [hm, and_true]
  · next hm => simp only [hm, Bool.false_eq_true, and_false, decide_false, List.countP_false, Function.const]

theorem count_monotone {anc : κ → List κ} {mod : Option (List κ)} (anns : List κ) {t t' : κ}
    (hnd : ∀ a, (anc a).Nodup) (hclosed : ∀ a x y, x ∈ anc a → y ∈ anc x → y ∈ anc a)
    (hanc : t' ∈ anc t) (hm' : inModule mod t' = true) :
    (increments anc mod anns).count t ≤ (increments anc mod anns).count t' := by
  rw [count_increments _ _ t hnd, count_increments _ _ t' hnd, hm', if_pos rfl]
  split
  · exact List.countP_mono_left fun a _ ha => decide_eq_true (hclosed a t t' (of_decide_eq_true ha) hanc)
  · exact Nat.zero_le _

/-- the final count (the annotation count `c` if positive, else 1 for a corpus term under pseudocounts, `P`, else 0) is
monotone in `c` and `P` -/
theorem count_or_pseudo_mono {c c' : Nat} {P P' : Prop} [Decidable P] [Decidable P'] (hc : c ≤ c') (hP : P → P') :
    (if 0 < c then c else if P then 1 else 0) ≤ (if 0 < c' then c' else if P' then 1 else 0) := by
  by_cases h1 : 0 < c
  · rw [if_pos h1, if_pos (Nat.lt_of_lt_of_le h1 hc)]; exact hc
  · rw [if_neg h1]
    by_cases h2 : 0 < c'
    · rw [if_pos h2]; split
      · exact h2
      · exact Nat.zero_le _
    · rw [if_neg h2]
      by_cases h3 : P
      · rw [if_pos h3, if_pos (hP h3)]; exact Nat.le_refl _
      · rw [if_neg h3]; exact Nat.zero_le _

end Hpv.Ic
