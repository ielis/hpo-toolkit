/-
Two pops and an append keep the leaves (`popTwice_leaves`); the step of the trace model is such a pair of pops, guarded by
`lo < hi` (`clusterStep_eq`); positions are recovered for any rearrangement of the input (`findIndices_spec`).
-/
import Hpv.Sorting
namespace Hpv.Sorting
variable {κ : Type}

theorem perm_cons_eraseIdx {α} {l : List α} {i : Nat} {a : α} (h : l[i]? = some a) : l.Perm (a :: l.eraseIdx i) := by
  obtain ⟨hi, rfl⟩ := List.getElem?_eq_some_iff.mp h
  rw [List.eraseIdx_eq_take_drop_succ]
  conv => lhs; rw [← List.take_append_drop i l, List.drop_eq_getElem_cons hi]
  exact List.perm_middle

def leaves (nodes : List (Tree κ)) : List κ := nodes.flatMap Tree.inorder

theorem leaves_map_leaf (l : List κ) : leaves (l.map Tree.leaf) = l := by
  rw [leaves, List.flatMap_map]; exact List.flatMap_singleton' l

theorem leaves_singleton (t : Tree κ) : leaves [t] = t.inorder := List.append_nil _

theorem popTwice_leaves {nodes nodes' : List (Tree κ)} {i j : Nat} (h : popTwice nodes i j = some nodes') :
    (leaves nodes').Perm (leaves nodes) ∧ nodes'.length + 1 = nodes.length := by
  revert h
  -- one goal per branch of `popTwice`; `cases h` closes the failing ones (`none = some _`), the successful one is left
  fun_cases popTwice nodes i j <;> intro h <;> cases h
  next a ha b hb =>
  have p : nodes.Perm (a :: b :: (nodes.eraseIdx i).eraseIdx j) :=
    (perm_cons_eraseIdx ha).trans ((perm_cons_eraseIdx hb).cons a)
  refine ⟨(List.Perm.trans ?_ (p.flatMap_right Tree.inorder).symm), by rw [List.length_append, p.length_eq]; rfl⟩
  rw [leaves, List.flatMap_append, List.flatMap_singleton, List.flatMap_cons, List.flatMap_cons]
  exact List.perm_append_comm.trans (.of_eq (List.append_assoc ..))

theorem popTwice_isSome {nodes : List (Tree κ)} {i j : Nat} (hi : i < nodes.length) (hj : j + 1 < nodes.length) :
    ∃ nodes', popTwice nodes i j = some nodes' := by
  have hj' : j < (nodes.eraseIdx i).length := by rw [List.length_eraseIdx_of_lt hi]; exact Nat.lt_sub_of_add_lt hj
  rw [popTwice, List.getElem?_eq_getElem hi, List.getElem?_eq_getElem hj']
  exact ⟨_, rfl⟩

theorem clusterStep_eq (nodes : List (Tree κ)) (hi lo : Nat) :
    clusterStep nodes hi lo = if lo < hi then popTwice nodes hi lo else none := by
  unfold clusterStep popTwice
  by_cases h : lo < hi
  · rw [List.getElem?_eraseIdx_of_lt h]; cases nodes[hi]? <;> cases nodes[lo]? <;> simp [h]
  · cases nodes[hi]? <;> cases nodes[lo]? <;> simp [h]

theorem cluster_inv {trace : List (Nat × Nat)} {nodes nodes' : List (Tree κ)} (h : cluster trace nodes = some nodes') :
    (leaves nodes').Perm (leaves nodes) ∧ nodes'.length + trace.length = nodes.length := by
  induction trace generalizing nodes with
  | nil => cases h; exact ⟨.refl _, rfl⟩
  | cons p rest ih =>
    rw [cluster, clusterStep_eq] at h
    by_cases hlt : p.2 < p.1
    · rw [if_pos hlt] at h
      obtain ⟨mid, hs, hr⟩ := Option.bind_eq_some_iff.mp h
      have ⟨p1, l1⟩ := popTwice_leaves hs
      have ⟨p2, l2⟩ := ih hr
      exact ⟨p2.trans p1, by rw [List.length_cons, ← Nat.add_assoc, l2, l1]⟩
    · rw [if_neg hlt] at h; cases h

/-- Whatever pairs are merged, in whatever order, no leaf is lost or duplicated. -/
theorem cluster_leaves (trace : List (Nat × Nat)) (nodes nodes' : List (Tree κ))
    (h : cluster trace nodes = some nodes') : (leaves nodes').Perm (leaves nodes) :=
  (cluster_inv h).1

theorem inorder_perm_of_cluster {source : List κ} {trace : List (Nat × Nat)} {t : Tree κ}
    (h : cluster trace (source.map Tree.leaf) = some [t]) : t.inorder.Perm source := by
  simpa [leaves_map_leaf, leaves_singleton] using cluster_leaves trace _ _ h

theorem enum_eq_zipIdx (k : Nat) (xs : List κ) : enum k xs = (xs.zipIdx k).map (fun p => (p.2, p.1)) := by
  fun_induction enum k xs with
  | case1 => rfl
  | case2 k x xs ih => rw [ih]; rfl

variable [DecidableEq κ]

theorem takeFirst_spec (s : κ) (pool : List (Nat × κ)) :
    match takeFirst s pool with
    | none => s ∉ pool.map Prod.snd
    | some (i, pool') => pool.Perm ((i, s) :: pool') := by
  fun_induction takeFirst s pool with
  | case1 => exact List.not_mem_nil
  | case2 i rest => exact .refl _
  | case3 i x rest hx ih =>
    cases hr : takeFirst s rest with
    | none => rw [hr] at ih; exact fun h => (List.mem_cons.mp h).elim (fun e => hx e.symm) ih
    | some r => rw [hr] at ih; exact (ih.cons (i, x)).trans (.swap ..)

theorem assign_correct {ordered : List κ} {pool : List (Nat × κ)} (h : ordered.Perm (pool.map Prod.snd)) :
    ∃ ps : List (Nat × κ), ps.Perm pool ∧ ps.map Prod.snd = ordered ∧ assign ordered pool = some (ps.map Prod.fst) := by
  induction ordered generalizing pool with
  | nil =>
    obtain rfl := List.map_eq_nil_iff.mp h.nil_eq.symm
    exact ⟨[], .refl _, rfl, rfl⟩
  | cons s rest ih =>
    have hs := takeFirst_spec s pool
    split at hs
    · exact absurd (h.subset List.mem_cons_self) hs
    · next i pool' ht =>
      obtain ⟨ps, hp, h2, hr⟩ := ih (h.trans (hs.map Prod.snd)).cons_inv
      exact ⟨(i, s) :: ps, (hp.cons _).trans hs.symm, congrArg (s :: ·) h2,
        by simp only [assign, ht, hr, Option.map_some, List.map_cons]⟩

theorem assign_spec (ordered : List κ) (pool : List (Nat × κ)) (h : ordered.Perm (pool.map Prod.snd)) :
    ∃ res, assign ordered pool = some res ∧ res.Perm (pool.map Prod.fst) :=
  let ⟨_, hp, _, hr⟩ := assign_correct h
  ⟨_, hr, hp.map Prod.fst⟩

theorem findIndices_spec {source ordered : List κ} (h : ordered.Perm source) :
    ∃ res, findIndices source ordered = some res ∧ res.Perm (List.range source.length) ∧
      res.map (source[·]?) = ordered.map some := by
  have e1 : (enum 0 source).map Prod.snd = source := by
    rw [enum_eq_zipIdx, List.map_map]; exact List.zipIdx_map_fst 0 source
  have e2 : (enum 0 source).map Prod.fst = List.range source.length := by
    rw [enum_eq_zipIdx, List.map_map, List.range_eq_range']; exact List.zipIdx_map_snd 0 source
  obtain ⟨ps, hp, rfl, hr⟩ := assign_correct (pool := enum 0 source) (e1.symm ▸ h)
  refine ⟨_, hr, e2 ▸ hp.map Prod.fst, ?_⟩
  rw [List.map_map, List.map_map]
  refine List.map_congr_left fun p hps => ?_
  obtain ⟨q, hq, rfl⟩ := List.mem_map.mp (enum_eq_zipIdx 0 source ▸ hp.subset hps)
  exact List.mem_zipIdx_iff_getElem?.mp hq

/-- argsort: for any merge trace that reduces the input to a single tree, the result is a permutation of 0..n-1. -/
theorem argsort_perm (source : List κ) (trace : List (Nat × Nat)) (t : Tree κ)
    (h : cluster trace (source.map Tree.leaf) = some [t]) :
    ∃ res, findIndices source t.inorder = some res ∧ res.Perm (List.range source.length) :=
  let ⟨res, h1, h2, _⟩ := findIndices_spec (inorder_perm_of_cluster h)
  ⟨res, h1, h2⟩

end Hpv.Sorting
