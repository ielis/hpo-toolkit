/-
`mica` is core's `max?` of 0 and the IC values of the common ancestors (`mica_eq_max?`), so what characterises a maximum
characterises it (`mica_spec`), and every other fact about it is a clause of that. One step of the loop is a `put` at the
normalised key when the MICA value is positive (`stepPair_eq`); the loop invariant (`foldl_stepPair_spec`): a visited
unordered pair reads its MICA value, any other pair 0; and the pairs the loop visits are those below a common group
(`visited_iff`).
-/
import Hpv.Resnik
import Hpv.SimProofs
namespace Hpv.Resnik
open Hpv.Sim

theorem mica_eq_max? (anc : Str → List Str) (ic : Str → Int) (l r : Str) :
    (0 :: ((anc l).filter (fun t => decide (t ∈ anc r))).map ic).max? = some (mica anc ic l r) := by
  rw [List.max?_cons', List.foldl_map]; rfl

theorem mica_spec (anc : Str → List Str) (ic : Str → Int) (l r : Str) (m : Int) :
    mica anc ic l r = m ↔
      (0 ≤ m ∧ (∀ t, t ∈ anc l → t ∈ anc r → ic t ≤ m) ∧ (m = 0 ∨ ∃ t, t ∈ anc l ∧ t ∈ anc r ∧ ic t = m)) := by
  rw [← Option.some.injEq, ← mica_eq_max?, List.max?_eq_some_iff, List.forall_mem_cons, List.forall_mem_map]
  simp only [List.mem_cons, List.mem_map, List.mem_filter, decide_eq_true_iff, and_imp, and_assoc]
  exact and_comm.trans and_assoc

theorem mica_nonneg (anc : Str → List Str) (ic : Str → Int) (l r : Str) : 0 ≤ mica anc ic l r :=
  ((mica_spec anc ic l r _).mp rfl).1

theorem le_mica {anc : Str → List Str} (ic : Str → Int) {l r t : Str} (hl : t ∈ anc l) (hr : t ∈ anc r) :
    ic t ≤ mica anc ic l r :=
  ((mica_spec anc ic l r _).mp rfl).2.1 t hl hr

theorem mica_attained (anc : Str → List Str) (ic : Str → Int) (l r : Str) :
    mica anc ic l r = 0 ∨ ∃ t, t ∈ anc l ∧ t ∈ anc r ∧ ic t = mica anc ic l r :=
  ((mica_spec anc ic l r _).mp rfl).2.2

theorem mica_comm (anc : Str → List Str) (ic : Str → Int) (l r : Str) : mica anc ic l r = mica anc ic r l :=
  (mica_spec anc ic l r _).mpr ⟨mica_nonneg .., fun _ hl hr => le_mica ic hr hl,
    (mica_attained anc ic r l).imp_right fun h => h.elim fun t h => ⟨t, h.2.1, h.1, h.2.2⟩⟩

theorem mica_congr (anc : Str → List Str) (ic : Str → Int) {a b x y : Str} (h : norm a b = norm x y) :
    mica anc ic a b = mica anc ic x y := by
  rcases (norm_eq_iff a b x y).mp h with ⟨rfl, rfl⟩ | ⟨rfl, rfl⟩
  · rfl
  · exact mica_comm ..

/-- "the unordered pair {x, y} has been visited" -/
def Visited (P : List (Str × Str)) (x y : Str) : Prop := ∃ p ∈ P, norm p.1 p.2 = norm x y

/-- value the container must hold for {x, y} after visiting the pairs in `P` -/
def expected (anc : Str → List Str) (ic : Str → Int) (P : List (Str × Str)) (x y : Str) [Decidable (Visited P x y)] : Int :=
  if Visited P x y then mica anc ic x y else 0

/-- the write of one step: the pair goes under its ordered key whichever way the strict comparison went -/
theorem stepPair_eq (anc : Str → List Str) (ic : Str → Int) (s : State) (p : Str × Str) :
    stepPair anc ic s p =
      if mica anc ic p.1 p.2 > 0 then put s (norm p.1 p.2) (max (mica anc ic p.1 p.2) (get s p.1 p.2)) else s := by
  have hv (g : Int) (hm : mica anc ic p.1 p.2 > 0) : ¬ max (mica anc ic p.1 p.2) g < 0 :=
    Int.not_lt.mpr (Int.le_trans (Int.le_of_lt hm) (Int.le_max_left ..))
  unfold stepPair
  dsimp only
  by_cases hm : mica anc ic p.1 p.2 > 0
  · rw [if_pos hm, if_pos hm]
    by_cases hlt : slt p.1 p.2 = true
    · rw [if_pos hlt, set_eq, if_neg (hv _ hm)]
    · rw [if_neg hlt, set_eq, if_neg (hv _ hm), norm_comm, get_comm]
  · rw [if_neg hm, if_neg hm]

theorem stepPair_spec (anc : Str → List Str) (ic : Str → Int) (s : State) (p : Str × Str)
    (hs : ∀ x y, get s x y = 0 ∨ get s x y = mica anc ic x y) (x y : Str) :
    get (stepPair anc ic s p) x y =
      if norm p.1 p.2 = norm x y then mica anc ic x y else get s x y := by
  rw [stepPair_eq]
  have hnn := mica_nonneg anc ic p.1 p.2
  by_cases hn : norm p.1 p.2 = norm x y
  · rw [if_pos hn, ← mica_congr anc ic hn]
    split
    · rw [get_put, if_pos hn]
      rcases hs p.1 p.2 with h | h <;> rw [h]
      · exact Int.max_eq_left hnn
      · exact Int.max_self _
    · next hm =>
      rw [← get_congr s hn]
      exact (hs p.1 p.2).elim (fun h => h.trans (Int.le_antisymm hnn (Int.not_lt.mp hm))) id
  · rw [if_neg hn]
    split
    · rw [get_put, if_neg hn]
    · rfl

theorem visited_cons (p : Str × Str) (P : List (Str × Str)) (x y : Str) :
    Visited (p :: P) x y ↔ norm p.1 p.2 = norm x y ∨ Visited P x y := by
  simp only [Visited, List.mem_cons, or_and_right, exists_or, exists_eq_left]

/-- After visiting the pairs in `P`, the container holds the MICA value for every visited unordered pair and 0 elsewhere. -/
theorem foldl_stepPair_spec (anc : Str → List Str) (ic : Str → Int) (P : List (Str × Str)) :
    ∀ x y, (get (P.foldl (stepPair anc ic) []) x y = mica anc ic x y ∧ Visited P x y) ∨
           (get (P.foldl (stepPair anc ic) []) x y = 0 ∧ (Visited P x y → mica anc ic x y = 0)) := by
  have hrev (x y) : Visited P x y ↔ Visited P.reverse x y := by simp only [Visited, List.mem_reverse]
  simp only [List.foldl_eq_foldr_reverse, hrev]
  induction P.reverse with
  | nil => exact fun x y => Or.inr ⟨rfl, fun h => h.elim fun _ h => absurd h.1 List.not_mem_nil⟩
  | cons p done ih =>
    intro x y
    rw [List.foldr_cons, visited_cons,
      stepPair_spec anc ic _ p (fun x y => (ih x y).elim (fun h => .inr h.1) (fun h => .inl h.1))]
    by_cases hn : norm p.1 p.2 = norm x y
    · rw [if_pos hn]; exact Or.inl ⟨rfl, Or.inl hn⟩
    · rw [if_neg hn]
      rcases ih x y with ⟨h1, h2⟩ | ⟨h1, h2⟩
      · exact Or.inl ⟨h1, Or.inr h2⟩
      · exact Or.inr ⟨h1, fun h => h2 (h.resolve_left hn)⟩

theorem mem_pairsFrom_of_mem {l : List Str} {x y : Str} (hx : x ∈ l) (hy : y ∈ l) :
    (x, y) ∈ pairsFrom l ∨ (y, x) ∈ pairsFrom l := by
  induction l with
  | nil => cases hx
  | cons a as ih =>
    simp only [pairsFrom, List.mem_append, List.mem_map]
    rcases List.mem_cons.mp hx with rfl | hx'
    · exact Or.inl (Or.inl ⟨y, hy, rfl⟩)
    · rcases List.mem_cons.mp hy with rfl | hy'
      · exact Or.inr (Or.inl ⟨x, hx, rfl⟩)
      · exact (ih hx' hy').imp Or.inr Or.inr

theorem mem_of_mem_pairsFrom {l : List Str} {x y : Str} (hp : (x, y) ∈ pairsFrom l) : x ∈ l ∧ y ∈ l := by
  induction l with
  | nil => cases hp
  | cons a as ih =>
    simp only [pairsFrom, List.mem_append, List.mem_map, Prod.mk.injEq] at hp
    rcases hp with ⟨_, hy, rfl, rfl⟩ | hp
    · exact ⟨List.mem_cons_self, hy⟩
    · exact (ih hp).imp (List.mem_cons_of_mem _) (List.mem_cons_of_mem _)

def SameBranch (groups : List Str) (desc : Str → List Str) (x y : Str) : Prop :=
  ∃ g ∈ groups, x ∈ desc g ∧ y ∈ desc g

theorem visited_iff_mem (P : List (Str × Str)) (x y : Str) : Visited P x y ↔ (x, y) ∈ P ∨ (y, x) ∈ P := by
  simp only [Visited, norm_eq_iff]
  constructor
  · rintro ⟨p, hp, ⟨rfl, rfl⟩ | ⟨rfl, rfl⟩⟩
    · exact Or.inl hp
    · exact Or.inr hp
  · rintro (h | h)
    · exact ⟨_, h, Or.inl ⟨rfl, rfl⟩⟩
    · exact ⟨_, h, Or.inr ⟨rfl, rfl⟩⟩

theorem visited_iff (groups : List Str) (desc : Str → List Str) (x y : Str) :
    Visited (allPairs groups desc) x y ↔ SameBranch groups desc x y := by
  simp only [visited_iff_mem, allPairs, List.mem_flatMap, SameBranch]
  constructor
  · rintro (⟨g, hg, h⟩ | ⟨g, hg, h⟩)
    · exact ⟨g, hg, mem_of_mem_pairsFrom h⟩
    · exact ⟨g, hg, (mem_of_mem_pairsFrom h).symm⟩
  · rintro ⟨g, hg, hx, hy⟩
    exact (mem_pairsFrom_of_mem hx hy).imp (fun h => ⟨g, hg, h⟩) (fun h => ⟨g, hg, h⟩)

theorem precalc_spec (groups : List Str) (desc anc : Str → List Str) (ic : Str → Int) (x y : Str) :
    (SameBranch groups desc x y → get (precalc groups desc anc ic) x y = mica anc ic x y) ∧
    (¬ SameBranch groups desc x y → get (precalc groups desc anc ic) x y = 0) ∧
    get (precalc groups desc anc ic) x y = get (precalc groups desc anc ic) y x ∧
    0 ≤ get (precalc groups desc anc ic) x y ∧ get (precalc groups desc anc ic) x y ≤ mica anc ic x y := by
  have h := foldl_stepPair_spec anc ic (allPairs groups desc) x y
  rw [visited_iff] at h
  have hnn := mica_nonneg anc ic x y
  unfold precalc
  rcases h with ⟨h1, h2⟩ | ⟨h1, h2⟩
  · exact ⟨fun _ => h1, fun hb => absurd h2 hb, get_comm .., h1 ▸ hnn, Int.le_of_eq h1⟩
  · exact ⟨fun hb => h1.trans (h2 hb).symm, fun _ => h1, get_comm .., Int.le_of_eq h1.symm, h1 ▸ hnn⟩

def AllPos (s : State) : Prop := ∀ k v, find s k = some v → 0 < v

theorem stepPair_inv (anc : Str → List Str) (ic : Str → Int) (s : State) (p : Str × Str) (h : WF s ∧ AllPos s) :
    WF (stepPair anc ic s p) ∧ AllPos (stepPair anc ic s p) := by
  rw [stepPair_eq]
  split
  · next hm =>
    have hv : 0 < max (mica anc ic p.1 p.2) (get s p.1 p.2) := Int.lt_of_lt_of_le hm (Int.le_max_left ..)
    refine ⟨wf_put h.1 (norm_sle ..) (Int.le_of_lt hv), fun k v hk => ?_⟩
    rw [find_put] at hk
    split at hk
    · cases hk; exact hv
    · exact h.2 k v hk
  · exact h

theorem precalc_stored_positive (groups : List Str) (desc anc : Str → List Str) (ic : Str → Int) :
    WF (precalc groups desc anc ic) ∧ AllPos (precalc groups desc anc ic) :=
  List.foldlRecOn _ _ ⟨wf_nil, fun _ _ h => by cases h⟩ fun s h p _ => stepPair_inv anc ic s p h

end Hpv.Resnik
