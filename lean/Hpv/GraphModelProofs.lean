/-
The graph models: what each query asks for (`Q.answer`), and the two graph classes answering
it: the indexed graph as built by its factory (`BuiltIx`), the matrix graphs under "the adjacency matrix represents the
edge list" (`Represents`).
-/
import Hpv.IndexedProofs
import Hpv.RootProofs

namespace Hpv.GM
open Hpv.Graph Hpv.Csr Hpv.Indexed Relation

variable {κ : Type}

/-- one step in the direction query `q` walks: to the object of an `is_a` edge, or to its subject -/
def Q.step (E' : List (Edge κ)) : Q → κ → κ → Prop
  | .parents, a, b | .ancestors, a, b => (a, b) ∈ E'
  | .children, a, b | .descendants, a, b => (b, a) ∈ E'

/-- the relation between a source and the members of the answer to query `q` -/
def Q.answer (E' : List (Edge κ)) : Q → κ → κ → Prop
  | .parents => Q.step E' .parents
  | .children => Q.step E' .children
  | .ancestors => TransGen (Q.step E' .ancestors)
  | .descendants => TransGen (Q.step E' .descendants)

/-- the end of an edge at which query `q` stands, and the end it steps to -/
def Q.key : Q → Edge κ → κ
  | .parents | .ancestors => Prod.fst
  | .children | .descendants => Prod.snd

def Q.tgt : Q → Edge κ → κ
  | .parents | .ancestors => Prod.snd
  | .children | .descendants => Prod.fst

theorem Q.step_iff (E' : List (Edge κ)) (q : Q) (a b : κ) : q.step E' a b ↔ ∃ e ∈ E', q.key e = a ∧ q.tgt e = b := by
  constructor
  · intro h; cases q <;> exact ⟨_, h, rfl, rfl⟩
  · rintro ⟨⟨_, _⟩, he, rfl, rfl⟩; cases q <;> exact he

theorem Q.answer_congr {E₁ E₂ : List (Edge κ)} (h : ∀ e, e ∈ E₁ ↔ e ∈ E₂) (q : Q) (v x : κ) :
    q.answer E₁ v x ↔ q.answer E₂ v x := by
  cases q
  case children | parents => exact h _
  case ancestors | descendants => exact transGen_congr fun a b => h _

theorem simple_of_acyclic {E' : List (Edge κ)} (hacyc : ∀ x, ¬ TransGen (fun a b => (a, b) ∈ E') x x) :
    (∀ e ∈ E', e.1 ≠ e.2) ∧ (∀ a b, (a, b) ∈ E' → (b, a) ∉ E') ∧ ∀ (q : Q) v, ¬ q.answer E' v v := by
  refine ⟨fun e he heq => hacyc e.1 (.single (show (e.1, e.1) ∈ E' from (Prod.ext rfl heq : (e.1, e.1) = e) ▸ he)),
    fun a _ hab hba => hacyc a (.tail (.single hab) hba), fun q v hvv => hacyc v ?_⟩
  cases q
  case children | parents => exact .single hvv
  case ancestors => exact hvv
  case descendants => exact transGen_swap.mp hvv

/-- the bound of `outgoing`, `len(indptr) - 1`, is the number of rows -/
theorem indptr_bound {c : Static} {n : Nat} (hlen : c.indptr.length = n + 1) : ((c.indptr.length : Nat) : Int) - 1 = n := by
  rw [hlen, Int.natCast_add, Int.natCast_one, Int.add_sub_cancel]

theorem outgoing_ok {c : Static} {n i : Nat} (hlen : c.indptr.length = n + 1) (hi : i < n) :
    outgoing c (i : Int) = .ok (c.row i) := by
  rw [outgoing, indptr_bound hlen, Int.toNat_natCast,
    if_neg (not_or.mpr ⟨Int.not_lt.mpr (Int.natCast_nonneg i), Int.not_le.mpr (Int.ofNat_lt.mpr hi)⟩)]

theorem outgoing_bad {c : Static} {n : Nat} {i : Int} (hlen : c.indptr.length = n + 1) (hi : i < 0 ∨ (n : Int) ≤ i) :
    outgoing c i = .error .valueError := by
  rw [outgoing, indptr_bound hlen, if_pos hi]

theorem IGraph.idxToNode_ok (g : IGraph κ) {i : Nat} {v : κ} (hi : g.nodes[i]? = some v) : g.idxToNode (i : Int) = .ok v := by
  have : ¬ ((i : Int) < 0 ∨ (g.nodes.length : Int) ≤ (i : Int)) :=
    not_or.mpr ⟨Int.not_lt.mpr (Int.natCast_nonneg i), Int.not_le.mpr (Int.ofNat_lt.mpr (List.getElem?_eq_some_iff.mp hi).1)⟩
  simp only [IGraph.idxToNode, if_neg this, Int.toNat_natCast, hi]

variable [DecidableEq κ]

theorem findIdx_spec (nodes : List κ) (x : κ) (hx : x ∈ nodes) :
    ∃ r, findIdx nodes x = some r ∧ nodes[r]? = some x := by
  have hlt : nodes.findIdx (fun y => decide (y = x)) < nodes.length :=
    List.findIdx_lt_length_of_exists ⟨x, hx, decide_eq_true rfl⟩
  refine ⟨_, if_pos hlt, ?_⟩
  rw [List.getElem?_eq_getElem hlt]
  exact congrArg some (of_decide_eq_true (List.findIdx_getElem (w := hlt)))

/-- the CSR array query `q` reads -/
def IGraph.arr (g : IGraph κ) : Q → Static
  | .parents | .ancestors => g.parents
  | .children | .descendants => g.children

/-- What the indexed factory builds from an arbitrary edge list: the CSR arrays of the de-duplicated, rooted list. -/
theorem buildIndexed_spec {o : Graph.Ord κ} (hs : o.Strict) {owl : κ} {E : List (Edge κ)} {root : κ} {E' : List (Edge κ)}
    (hroot : findRoot owl (dedup E) = .ok (root, E')) (hloop : ∀ e ∈ E', e.1 ≠ e.2) :
    ∃ r, (nodesOf o E')[r]? = some root ∧ buildIndexed o owl E = .ok ⟨r, nodesOf o E',
      Static.ofRows (rowsBy o (nodesOf o E') E' Prod.snd Prod.fst),
      Static.ofRows (rowsBy o (nodesOf o E') E' Prod.fst Prod.snd)⟩ := by
  obtain ⟨r, hr, hrn⟩ := findIdx_spec _ root (root_mem_nodesOf o hroot)
  exact ⟨r, hrn, by simp only [buildIndexed, hroot, build_eq hs hloop, hr]⟩

/-- `g` is what the indexed factory builds from `E`, whose rooted edge list `E'` has no self-loop -/
structure BuiltIx (o : Graph.Ord κ) (owl : κ) (E : List (Edge κ)) (root : κ) (E' : List (Edge κ)) (g : IGraph κ) : Prop where
  strict : o.Strict
  hroot : findRoot owl (dedup E) = .ok (root, E')
  hloop : ∀ e ∈ E', e.1 ≠ e.2
  hg : buildIndexed o owl E = .ok g

section
variable {o : Graph.Ord κ} {owl : κ} {E : List (Edge κ)} {root : κ} {E' : List (Edge κ)} {g : IGraph κ} {i : Nat} {v : κ}

theorem BuiltIx.eq (h : BuiltIx o owl E root E' g) : ∃ r, (nodesOf o E')[r]? = some root ∧
    g = ⟨r, nodesOf o E', Static.ofRows (rowsBy o (nodesOf o E') E' Prod.snd Prod.fst),
      Static.ofRows (rowsBy o (nodesOf o E') E' Prod.fst Prod.snd)⟩ := by
  obtain ⟨r, hr, hg⟩ := buildIndexed_spec h.strict h.hroot h.hloop
  exact ⟨r, hr, Except.ok.inj (h.hg.symm.trans hg)⟩

theorem BuiltIx.nodes_eq (h : BuiltIx o owl E root E' g) : g.nodes = nodesOf o E' := by
  obtain ⟨_, _, rfl⟩ := h.eq; rfl

theorem BuiltIx.sorted (h : BuiltIx o owl E root E' g) : Sorted o g.nodes :=
  h.nodes_eq ▸ sorted_sortDedup o h.strict _

theorem BuiltIx.nodes_nodup (h : BuiltIx o owl E root E' g) : g.nodes.Nodup :=
  Sorted.nodup o h.strict _ h.sorted

theorem BuiltIx.root_idx (h : BuiltIx o owl E root E' g) : g.nodes[g.root]? = some root := by
  obtain ⟨_, hr, rfl⟩ := h.eq; exact hr

theorem BuiltIx.lookup (h : BuiltIx o owl E root E' g) (v : κ) (hv : v ∈ g.nodes) :
    ∃ i, g.nodes[i]? = some v ∧ g.nodeToIdx o v = some i ∧ i < g.nodes.length := by
  obtain ⟨i, hi, hidx⟩ := exists_indexOf? h.strict h.sorted hv
  exact ⟨i, hi, hidx, (List.getElem?_eq_some_iff.mp hi).1⟩

theorem BuiltIx.arr_eq (h : BuiltIx o owl E root E' g) (q : Q) :
    g.arr q = Static.ofRows (rowsBy o g.nodes E' q.key q.tgt) := by
  obtain ⟨_, _, rfl⟩ := h.eq
  cases q <;> rfl

theorem BuiltIx.indptr_length (h : BuiltIx o owl E root E' g) (q : Q) :
    (g.arr q).indptr.length = g.nodes.length + 1 := by
  rw [h.arr_eq q, Static.ofRows, psums_length, rowsBy, List.length_map, List.length_map]

theorem BuiltIx.tgt_mem (h : BuiltIx o owl E root E' g) (q : Q) : ∀ e ∈ E', q.tgt e ∈ g.nodes := fun e he => by
  rw [h.nodes_eq]
  cases q
  case parents | ancestors => exact (mem_nodesOf o E' e he).2
  case children | descendants => exact (mem_nodesOf o E' e he).1

theorem BuiltIx.adjacency (h : BuiltIx o owl E root E' g) (q : Q) : Adjacency g.nodes (g.arr q).row (q.step E') :=
  h.arr_eq q ▸ adjacency_rowsBy h.strict h.sorted (h.tgt_mem q) _ (Q.step_iff E' q)

theorem BuiltIx.mem_children (h : BuiltIx o owl E root E' g) (a b : Nat) (x : κ) (hx : g.nodes[a]? = some x) :
    b ∈ g.children.row a ↔ ∃ y, g.nodes[b]? = some y ∧ (y, x) ∈ E' :=
  (h.adjacency .children).row a x hx b

theorem BuiltIx.row_spec (h : BuiltIx o owl E root E' g) (q : Q) (hi : g.nodes[i]? = some v) :
    ((g.arr q).row i).Nodup ∧
      mapNodes g.nodes ((g.arr q).row i) = (E'.filter fun e => decide (q.key e = v)).map q.tgt := by
  rw [h.arr_eq q, row_rowsBy hi]
  refine ⟨nodup_row h.strict h.sorted (h.tgt_mem q) (rooted_nodup h.hroot) (fun a _ b _ hk ht => ?_) v,
    mapNodes_row h.strict h.sorted _ fun e he => h.tgt_mem q e (List.mem_filter.mp he).1⟩
  cases q
  case parents | ancestors => exact Prod.ext hk ht
  case children | descendants => exact Prod.ext ht hk

theorem BuiltIx.queryIdx_spec (h : BuiltIx o owl E root E' g) (q : Q) (hi : g.nodes[i]? = some v) :
    ∃ idxs, g.queryIdx q i = .ok idxs ∧ idxs.Nodup ∧ Indexes g.nodes idxs (q.answer E' v) := by
  have hlt := (List.getElem?_eq_some_iff.mp hi).1
  have hout := outgoing_ok (h.indptr_length q) hlt
  have direct : ∃ idxs, outgoing (g.arr q) i = .ok idxs ∧ idxs.Nodup ∧ Indexes g.nodes idxs (q.step E' v) :=
    ⟨_, hout, (h.row_spec q hi).1, (h.adjacency q).row i v hi⟩
  have closure : ∃ idxs, traverseIdx (g.arr q) g.nodes.length i = .ok idxs ∧ idxs.Nodup ∧
      Indexes g.nodes idxs (TransGen (q.step E') v) := by
    obtain ⟨idxs, htr, hmem, hnd⟩ := (h.adjacency q).closure popStack popStack_lawful hi
    exact ⟨idxs, by simp only [traverseIdx, hout, Int.toNat_natCast, htr], hnd (h.row_spec q hi).1, hmem⟩
  cases q
  case children | parents => exact direct
  case ancestors | descendants => exact closure

theorem IGraph.query_ok {o : Graph.Ord κ} (hs : o.Strict) {g : IGraph κ} (hsorted : Sorted o g.nodes) {q : Q} {v : κ}
    {i : Nat} (hi : g.nodes[i]? = some v) (incl : Bool) {idxs : List Nat} (hq : g.queryIdx q (i : Int) = .ok idxs) :
    g.query o q (some v) incl = .ok ((if incl then [v] else []) ++ mapNodes g.nodes idxs) := by
  have hidx : indexOf? o g.nodes v = some i := (indexOf?_spec hs hsorted).mpr hi
  have hsrc : mapNodes g.nodes [i] = [v] := by simp only [mapNodes, List.filterMap_cons, hi, List.filterMap_nil]
  simp only [IGraph.query, IGraph.nodeToIdx, hidx, hq, hsrc]

/-- the direct queries (`hdir` holds by `rfl` exactly for `q = .parents` and `q = .children`) return the row in full -/
theorem BuiltIx.direct_exact (h : BuiltIx o owl E root E' g) (q : Q) (hdir : g.queryIdx q = outgoing (g.arr q))
    (hv : v ∈ g.nodes) :
    g.query o q (some v) false = .ok ((E'.filter fun e => decide (q.key e = v)).map q.tgt) ∧
    ((E'.filter fun e => decide (q.key e = v)).map q.tgt).Nodup ∧
    ∀ x, x ∈ (E'.filter fun e => decide (q.key e = v)).map q.tgt ↔ q.step E' v x := by
  obtain ⟨i, hi, _, hlt⟩ := h.lookup v hv
  obtain ⟨hnd, hlab⟩ := h.row_spec q hi
  have hq := IGraph.query_ok h.strict h.sorted (q := q) hi false
    ((congrFun hdir i).trans (outgoing_ok (h.indptr_length q) hlt))
  rw [hlab] at hq
  refine ⟨hq, hlab ▸ nodup_mapNodes h.nodes_nodup hnd, fun x => ?_⟩
  simp only [List.mem_map, List.mem_filter, decide_eq_true_eq, Q.step_iff, and_assoc]

theorem BuiltIx.query_spec (h : BuiltIx o owl E root E' g) (q : Q) (hv : v ∈ g.nodes) :
    ∃ res, (∀ incl, g.query o q (some v) incl = .ok ((if incl then [v] else []) ++ res)) ∧ res.Nodup ∧
      ∀ x, x ∈ res ↔ q.answer E' v x := by
  obtain ⟨i, hi⟩ := List.getElem?_of_mem hv
  obtain ⟨idxs, hq, hnd, hmem⟩ := h.queryIdx_spec q hi
  refine ⟨mapNodes g.nodes idxs, fun incl => IGraph.query_ok h.strict h.sorted hi incl hq,
    nodup_mapNodes h.nodes_nodup hnd, hmem.mem_labels ?_⟩
  have hadj := h.adjacency q
  cases q
  case children | parents => exact hadj.closed v
  case ancestors | descendants => exact fun _ => hadj.closed_transGen

end

/-- The adjacency matrix of `g` represents the rooted edge list `E'`: code `1` in cell `(i, j)` iff
`nodes[i] is_a nodes[j]`, code `-1` iff the converse; column lists are in range and duplicate-free
(`Csr.colIndicesOfVal_spec_nd` gives the last two for the matrix of well-formed rows). -/
structure Represents (o : Graph.Ord κ) (g : MGraph κ) (E' : List (Edge κ)) : Prop where
  sorted : Sorted o g.nodes
  nodes_mem : ∀ e ∈ E', e.1 ∈ g.nodes ∧ e.2 ∈ g.nodes
  up : ∀ i j x, g.nodes[i]? = some x → (j ∈ g.cols 1 i ↔ ∃ y, g.nodes[j]? = some y ∧ (x, y) ∈ E')
  down : ∀ i j x, g.nodes[i]? = some x → (j ∈ g.cols (-1) i ↔ ∃ y, g.nodes[j]? = some y ∧ (y, x) ∈ E')
  bound : ∀ r i j, j ∈ g.cols r i → j < g.nodes.length
  nodup : ∀ r i, (g.cols r i).Nodup

section
variable {o : Graph.Ord κ} {g : MGraph κ} {E' : List (Edge κ)} {v : κ}

theorem Represents.lookup (h : Represents o g E') (hs : o.Strict) (v : κ) (hv : v ∈ g.nodes) :
    ∃ i, g.nodes[i]? = some v ∧ indexOf? o g.nodes v = some i :=
  exists_indexOf? hs h.sorted hv

omit [DecidableEq κ] in
theorem Represents.adjacency (h : Represents o g E') (q : Q) : Adjacency g.nodes (g.cols (relCode q)) (q.step E') := by
  cases q
  case parents | ancestors =>
    exact ⟨fun i x hi j => h.up i j x hi, h.bound 1, fun x y hxy => (h.nodes_mem _ hxy).2⟩
  case children | descendants =>
    exact ⟨fun i x hi j => h.down i j x hi, h.bound (-1), fun x y hxy => (h.nodes_mem _ hxy).1⟩

/-- queue discipline; on a loop-free edge list the source, passed through the `seen` set of the worklist, is added once and
nothing else -/
theorem Represents.query_spec (h : Represents o g E') (hs : o.Strict) (q : Q) (hv : v ∈ g.nodes) :
    ∃ res, g.query o q (some v) false = .ok res ∧ res.Nodup ∧ (∀ x, x ∈ res ↔ q.answer E' v x) ∧
      ((∀ e ∈ E', e.1 ≠ e.2) → ∃ res', g.query o q (some v) true = .ok res' ∧ res'.Nodup ∧
        ∀ x, x ∈ res' ↔ x = v ∨ x ∈ res) := by
  obtain ⟨i, hi, hidx⟩ := h.lookup hs v hv
  have hnd := Sorted.nodup o hs _ h.sorted
  have hadj := h.adjacency q
  have hrow := h.nodup (relCode q) i
  have hself : (∀ e ∈ E', e.1 ≠ e.2) → i ∉ g.cols (relCode q) i := fun hloop hin => by
    have hvv := ((hadj.row i v hi).mem_iff hi).mp hin
    cases q <;> exact hloop _ hvv rfl
  cases q
  case children | parents =>
    refine ⟨_, by simp only [MGraph.query, hidx, Bool.false_eq_true, if_false, List.nil_append], nodup_mapNodes hnd hrow,
      (hadj.row i v hi).mem_labels (hadj.closed v), fun hloop => ?_⟩
    exact ⟨_, by simp only [MGraph.query, hidx, if_true, List.singleton_append],
      nodup_mapNodes hnd (List.nodup_cons.mpr ⟨hself hloop, hrow⟩), mem_mapNodes_cons hi fun _ => List.mem_cons⟩
  case ancestors | descendants =>
    obtain ⟨idxs, htr, hmem, hnodup⟩ := hadj.closure popQueue popQueue_lawful hi
    refine ⟨_, ?_, nodup_mapNodes hnd (hnodup hrow), hmem.mem_labels fun _ => hadj.closed_transGen, fun hloop => ?_⟩
    · simp only [MGraph.query, hidx, Bool.false_eq_true, if_false, List.nil_append, traverseFrom_eq_traverse, htr]
    obtain ⟨idxs', htr', hnodup', hmem'⟩ := traverseFrom_source popQueue popQueue_lawful _ _ i
      (List.getElem?_eq_some_iff.mp hi).1 hadj.bound (hself hloop) hrow
    exact ⟨_, by simp only [MGraph.query, hidx, if_true, List.singleton_append, htr'], nodup_mapNodes hnd hnodup',
      mem_mapNodes_cons hi fun j => (hmem' j).trans (or_congr_right ((hadj.reach_iff hi).trans (hmem j).symm))⟩

/-- parents / children of a matrix graph: exactly the direct is_a objects / subjects, each once -/
theorem Represents.direct (h : Represents o g E') (hs : o.Strict) (v : κ) (hv : v ∈ g.nodes) :
    (∃ res, g.query o .parents (some v) false = .ok res ∧ res.Nodup ∧ ∀ x, x ∈ res ↔ (v, x) ∈ E') ∧
    (∃ res, g.query o .children (some v) false = .ok res ∧ res.Nodup ∧ ∀ x, x ∈ res ↔ (x, v) ∈ E') := by
  obtain ⟨p, hp, ndp, mp, _⟩ := h.query_spec hs .parents hv
  obtain ⟨c, hc, ndc, mc, _⟩ := h.query_spec hs .children hv
  exact ⟨⟨p, hp, ndp, mp⟩, ⟨c, hc, ndc, mc⟩⟩

/-- ancestors / descendants of a matrix graph (queue discipline): exactly the transitive closure, each once -/
theorem Represents.closure (h : Represents o g E') (hs : o.Strict) (v : κ) (hv : v ∈ g.nodes) :
    (∃ res, g.query o .ancestors (some v) false = .ok res ∧ res.Nodup ∧
      ∀ x, x ∈ res ↔ Relation.TransGen (fun a b => (a, b) ∈ E') v x) ∧
    (∃ res, g.query o .descendants (some v) false = .ok res ∧ res.Nodup ∧
      ∀ x, x ∈ res ↔ Relation.TransGen (fun a b => (b, a) ∈ E') v x) := by
  obtain ⟨a, ha, nda, ma, _⟩ := h.query_spec hs .ancestors hv
  obtain ⟨d, hd, ndd, md, _⟩ := h.query_spec hs .descendants hv
  exact ⟨⟨a, ha, nda, ma⟩, ⟨d, hd, ndd, md⟩⟩

/-- **`include_source` on a matrix-backed graph** adds the source itself, exactly once, and nothing else — for all
four queries, on every graph whose matrix represents a loop-free edge list. -/
theorem Represents.include_source (h : Represents o g E') (hs : o.Strict) (hloop : ∀ e ∈ E', e.1 ≠ e.2)
    (q : Q) (v : κ) (hv : v ∈ g.nodes) :
    ∃ res res', g.query o q (some v) false = .ok res ∧ g.query o q (some v) true = .ok res' ∧
      res'.Nodup ∧ ∀ x, x ∈ res' ↔ x = v ∨ x ∈ res := by
  obtain ⟨res, hq, _, _, hsrc⟩ := h.query_spec hs q hv
  obtain ⟨res', hq', hnd', hm'⟩ := hsrc hloop
  exact ⟨res, res', hq, hq', hnd', hm'⟩

/-- on a loop-free edge list, for a node that is not in its own answer, `include_source` returns the answer and the source
once more, somewhere (it goes through the `seen` set of the traversal) -/
theorem Represents.query_perm (h : Represents o g E') (hs : o.Strict) (hloop : ∀ e ∈ E', e.1 ≠ e.2) (q : Q)
    (hirr : ¬ q.answer E' v v) (hv : v ∈ g.nodes) :
    ∃ res, g.query o q (some v) false = .ok res ∧ res.Nodup ∧ (∀ x, x ∈ res ↔ q.answer E' v x) ∧
      ∃ res', g.query o q (some v) true = .ok res' ∧ res'.Perm (v :: res) := by
  obtain ⟨res, hq, hnd, hm, hsrc⟩ := h.query_spec hs q hv
  obtain ⟨res', hq', hnd', hm'⟩ := hsrc hloop
  have hv' : v ∉ res := fun hin => hirr ((hm v).mp hin)
  exact ⟨res, hq, hnd, hm, res', hq', (List.perm_ext_iff_of_nodup hnd' (List.nodup_cons.mpr ⟨hv', hnd⟩)).mpr
    fun x => (hm' x).trans List.mem_cons.symm⟩

end

end Hpv.GM
