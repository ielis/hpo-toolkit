/-
Reads of an `ImmutableCsrMatrix` given by its rows, the columns of a row in ANY order (legal, non-canonical CSR: no column
twice in a row, every column inside the shape): cell, row and value-to-columns reads equal the dense matrix.  Strictly
sorted rows, as the builder makes them, are a special case (`RowsWF.toND` in `Hpv/MatrixProofs.lean`); they only add that
the value-to-columns answer is ascending, since it is a sublist of ascending columns either way.
-/
import Hpv.Matrix
import Hpv.CsrProofs
import Hpv.ListFacts

namespace Hpv.Csr

theorem firstOf_mem_or_zero (row : Row) (c : Nat) :
    (∃ p ∈ row, p.1 = c ∧ firstOf row c = p.2) ∨ (c ∉ row.map Prod.fst ∧ firstOf row c = 0) := by
  unfold firstOf
  cases hf : row.find? (fun p => p.1 = c) with
  | some q =>
    exact .inl ⟨q, List.mem_of_find?_eq_some hf,
      of_decide_eq_true (List.find?_some (p := fun p : Nat × Int => decide (p.1 = c)) hf), rfl⟩
  | none =>
    refine .inr ⟨fun h => ?_, rfl⟩
    obtain ⟨p, hp, hpc⟩ := List.mem_map.mp h
    exact List.find?_eq_none.mp hf p hp (decide_eq_true hpc)

theorem firstOf_of_not_mem {row : Row} {c : Nat} (h : c ∉ row.map Prod.fst) : firstOf row c = 0 :=
  (firstOf_mem_or_zero row c).elim (fun ⟨_, hp, hc, _⟩ => absurd (hc ▸ List.mem_map_of_mem hp) h) (·.2)

theorem firstOf_eq_of_mem {row : Row} (h : (row.map Prod.fst).Nodup) {p : Nat × Int} (hp : p ∈ row) :
    firstOf row p.1 = p.2 := by
  rw [firstOf, (find?_fst_eq_some_iff h p.1 p.2).mpr hp]; rfl

theorem firstOf_eq_iff {row : Row} (hnd : (row.map Prod.fst).Nodup) (c : Nat) {q : Int} (hq : q ≠ 0) :
    firstOf row c = q ↔ (c, q) ∈ row := by
  rw [firstOf, Option.getD_eq_iff, find?_fst_eq_some_iff hnd]
  exact or_iff_left fun h => hq h.2.symm

theorem firstOf_eq_zero_iff {row : Row} (hnz : ∀ p ∈ row, p.2 ≠ 0) (c : Nat) :
    firstOf row c = 0 ↔ c ∉ row.map Prod.fst := by
  refine ⟨fun h hin => ?_, firstOf_of_not_mem⟩
  rcases firstOf_mem_or_zero row c with ⟨p, hp, _, hv⟩ | ⟨hno, _⟩
  · exact hnz p hp (hv ▸ h)
  · exact hno hin

/-- without repeated columns the order of a row does not matter: the first and the last match coincide -/
theorem lastOf_eq_firstOf {row : Row} (h : (row.map Prod.fst).Nodup) (c : Nat) : lastOf row c = firstOf row c := by
  -- `lastOf row` is `firstOf row.reverse` by definition
  rcases firstOf_mem_or_zero row.reverse c with ⟨p, hp, rfl, hv⟩ | ⟨hc, hv⟩
  · exact hv.trans (firstOf_eq_of_mem h (List.mem_reverse.mp hp)).symm
  · exact hv.trans (firstOf_of_not_mem (fun h' => hc (List.map_reverse ▸ List.mem_reverse.mpr h'))).symm

/-- the `ImmutableCsrMatrix` whose rows are `rows`, with `ncols` columns -/
def ofRowsM (rows : List Row) (ncols : Nat) : Matrix := (ofRows rows).toMatrix rows.length ncols

theorem ncols_ofRowsM (rows : List Row) (n : Nat) : (ofRowsM rows n).ncols = n := rfl

theorem inRange_iff (i : Int) (n : Nat) : inRange i n = true ↔ 0 ≤ i ∧ i < n := by
  unfold inRange; exact decide_eq_true_iff

theorem inRange_cast (r n : Nat) : inRange (r : Int) n = decide (r < n) := by
  rw [Bool.eq_iff_iff, inRange_iff, decide_eq_true_iff, Int.ofNat_lt]
  exact and_iff_right (Int.natCast_nonneg r)

theorem inRange_nrows {rows : List Row} {r : Nat} (n : Nat) (hr : r < rows.length) :
    inRange (r : Int) (ofRowsM rows n).nrows = true :=
  (inRange_cast r _).trans (decide_eq_true hr)

theorem slice_ofRows {rows : List Row} {r : Nat} (n : Nat) (hr : r < rows.length) :
    (ofRowsM rows n).slice r = rows[r] := by
  simp only [Matrix.slice, ofRowsM, Builder.toMatrix, ofRows, ← List.map_drop, ← List.map_take,
    slice_flatten (List.getElem?_eq_getElem hr)]
  exact (List.zip_of_prod rfl rfl).symm

/-- no explicit zeros are stored -/
def NZ (rows : List Row) : Prop := ∀ row ∈ rows, ∀ p ∈ row, p.2 ≠ 0

/-- the dense matrix represented by the rows -/
def dense (rows : List Row) (r c : Nat) : Int := firstOf (rows.getD r []) c

theorem dense_of_lt {rows : List Row} {r : Nat} (hr : r < rows.length) : dense rows r = firstOf rows[r] := by
  funext c
  rw [dense, List.getD_eq_getElem?_getD, List.getElem?_eq_getElem hr]; rfl

/-- every row lists each of its columns once, all inside the shape - in whatever order (the `_nd` lemmas are the reads
under this hypothesis alone) -/
structure RowsND (rows : List Row) (ncols : Nat) : Prop where
  nodup : ∀ row ∈ rows, (row.map Prod.fst).Nodup
  bounded : ∀ row ∈ rows, ∀ p ∈ row, p.1 < ncols

theorem any_ge_eq_false {row : Row} {n : Nat} (h : ∀ p ∈ row, p.1 < n) : (row.any fun p => n ≤ p.1) = false :=
  List.any_eq_false.mpr fun p hp hd => Nat.not_le.mpr (h p hp) (of_decide_eq_true hd)

theorem getCell_spec {rows : List Row} {n r c : Nat} (hr : r < rows.length) (hc : c < n) :
    (ofRowsM rows n).getCell (r : Int) (c : Int) = .ok (dense rows r c) := by
  rw [Matrix.getCell, inRange_nrows n hr, Int.toNat_natCast, slice_ofRows n hr, ncols_ofRowsM, inRange_cast,
    decide_eq_true hc, Int.toNat_natCast, dense_of_lt hr]
  rfl

theorem getRow_spec_nd {rows : List Row} {n r : Nat} (hnd : RowsND rows n) (hr : r < rows.length) :
    (ofRowsM rows n).getRow (r : Int) = .ok ((List.range n).map (dense rows r)) := by
  have hmem := List.getElem_mem hr
  rw [Matrix.getRow, inRange_nrows n hr, Int.toNat_natCast, slice_ofRows n hr, ncols_ofRowsM, if_pos rfl, dense_of_lt hr,
    ← funext (lastOf_eq_firstOf (hnd.nodup _ hmem))]
  simp only [any_ge_eq_false (hnd.bounded _ hmem), Bool.false_eq_true, if_false]

/-- value-to-columns query on rows in any column order: exactly the columns whose dense value is `q`, each once: in
ascending order for the default value (`q = 0`, first disjunct: the complement of the stored columns), in storage order
otherwise (second disjunct) -/
theorem colIndicesOfVal_spec_nd {rows : List Row} {n r : Nat} (q : Int) (hnd : RowsND rows n) (hnz : NZ rows)
    (hr : r < rows.length) :
    ∃ cs, (ofRowsM rows n).colIndicesOfVal (r : Int) q = .ok cs ∧
      (cs.Sublist (List.range n) ∨ cs.Sublist (rows[r].map Prod.fst)) ∧
      ∀ c, c ∈ cs ↔ c < n ∧ dense rows r c = q := by
  have hmem := List.getElem_mem hr
  rw [Matrix.colIndicesOfVal, inRange_nrows n hr, Int.toNat_natCast, slice_ofRows n hr, ncols_ofRowsM, dense_of_lt hr,
    Bool.not_true, if_neg Bool.false_ne_true]
  by_cases hq : q = 0
  · subst hq
    rw [if_pos rfl, any_ge_eq_false (hnd.bounded _ hmem), if_neg Bool.false_ne_true]
    refine ⟨_, rfl, .inl List.filter_sublist, fun c => ?_⟩
    rw [firstOf_eq_zero_iff (hnz _ hmem), List.mem_filter, List.mem_range, Bool.not_eq_eq_eq_not, Bool.not_true,
      ← Bool.not_eq_true, List.contains_iff_mem]
  · rw [if_neg hq]
    refine ⟨_, rfl, .inr (List.filter_sublist.map _), fun c => ?_⟩
    rw [firstOf_eq_iff (hnd.nodup _ hmem) c hq]
    simp only [List.mem_map, List.mem_filter, decide_eq_true_eq]
    constructor
    · rintro ⟨p, ⟨hp, rfl⟩, rfl⟩
      exact ⟨hnd.bounded _ hmem p hp, hp⟩
    · rintro ⟨_, h⟩
      exact ⟨_, ⟨h, rfl⟩, rfl⟩

end Hpv.Csr
