/-
Under `Known` the validators work on `prim o f`, the item with its primary id.  The two validators that report at most once
per item are a filter followed by a map; the runner concatenates whenever all its validators succeed; the heap the
validators write to only grows at its end.
-/
import Hpv.Validate

namespace Hpv.Validate
variable {κ : Type}

/-- all ids are known to the ontology -/
def Known (o : Onto κ) (items : List (Feature κ)) : Prop := ∀ f ∈ items, (o.primary f.id).isSome

/-- the item with its id replaced by its primary id (unchanged if the id is unknown) -/
def prim (o : Onto κ) (f : Feature κ) : Feature κ := ⟨(o.primary f.id).getD f.id, f.present⟩

theorem primaryFeat_of_known {o : Onto κ} {f : Feature κ} (h : (o.primary f.id).isSome) :
    primaryFeat o f = some (prim o f) := by
  obtain ⟨p, hp⟩ := Option.isSome_iff_exists.mp h
  rw [primaryFeat, prim, hp]; rfl

theorem allSome_primaryFeat {o : Onto κ} {items : List (Feature κ)} (hk : Known o items) :
    allSome (items.map (primaryFeat o)) = some (items.map (prim o)) := by
  induction items with
  | nil => rfl
  | cons f rest ih =>
    obtain ⟨hf, hrest⟩ := List.forall_mem_cons.mp hk
    rw [List.map_cons, primaryFeat_of_known hf, allSome, ih hrest]; rfl

theorem flatMap_eq_filter_map {α β} {l : List α} {f : α → List β} {p : α → Bool} {g : α → β}
    (H : ∀ x ∈ l, f x = if p x then [g x] else []) : l.flatMap f = (l.filter p).map g := by
  induction l with
  | nil => rfl
  | cons a rest ih =>
    obtain ⟨ha, hrest⟩ := List.forall_mem_cons.mp H
    rw [List.flatMap_cons, ha, ih hrest, List.filter_cons]
    cases p a <;> rfl

variable [DecidableEq κ]

theorem mem_offending (o : Onto κ) (feats : List (Feature κ)) (f : Feature κ) (a : κ) :
    a ∈ offending o feats f ↔ a ∈ o.strictAnc f.id ∧ ∃ g ∈ feats, g.id = a ∧ (f.present = true ∨ g.present = false) := by
  unfold offending
  cases f.present <;>
    simp only [Bool.false_eq_true, if_false, if_true, List.mem_filter, List.any_filter, List.any_eq_true, Bool.and_eq_true,
      decide_eq_true_eq, Bool.not_eq_true', false_or, true_or, and_true, eq_comm (a := a), and_comm (b := _ = a)]

theorem mem_propResults (o : Onto κ) (feats : List (Feature κ)) (r : Result κ) :
    r ∈ propResults o feats ↔ ∃ f ∈ feats, ∃ a ∈ offending o feats f, ⟨.error, .propagation, [f.id, a]⟩ = r := by
  simp only [propResults, List.mem_flatMap, List.mem_map]

/-- what a validator reports (empty if it raises) -/
def resultsOf (o : Onto κ) (pa : κ) (items : List (Feature κ)) (v : Validator) : List (Result κ) :=
  match runValidator o pa items v with
  | .ok r => r
  | .error _ => []

theorem runStep_ok {o : Onto κ} {pa : κ} {items : List (Feature κ)} {v : Validator} {r : List (Result κ)}
    (acc : List (Result κ)) (h : runValidator o pa items v = .ok r) :
    runStep o pa items (.ok acc) v = .ok (acc ++ resultsOf o pa items v) := by
  unfold runStep resultsOf; rw [h]

theorem runner_spec {o : Onto κ} {pa : κ} {vs : List Validator} {items : List (Feature κ)}
    (hok : ∀ v ∈ vs, ∃ r, runValidator o pa items v = .ok r) :
    validateAll o pa vs items = .ok (vs.flatMap (resultsOf o pa items)) := by
  suffices h : ∀ acc : List (Result κ),
      vs.foldl (runStep o pa items) (.ok acc) = .ok (acc ++ vs.flatMap (resultsOf o pa items)) from h []
  induction vs with
  | nil => intro acc; rw [List.flatMap_nil, List.append_nil]; rfl
  | cons v rest ih =>
    intro acc
    obtain ⟨⟨r, hr⟩, hrest⟩ := List.forall_mem_cons.mp hok
    rw [List.foldl_cons, runStep_ok acc hr, ih hrest, List.flatMap_cons, List.append_assoc]

/-- the only cell written is the copy appended at the end -/
theorem extract_prefix (o : Onto κ) (h : Heap κ) (i : Nat) : h <+: (extractAndNormalise o h i).1 := by
  fun_cases extractAndNormalise o h i
  · exact List.prefix_rfl
  · exact List.prefix_append _ _
  · dsimp only
    split
    · rw [List.set_append_right _ _ (Nat.le_refl _)]; exact List.prefix_append _ _
    · exact List.prefix_append _ _

theorem heapAfter_prefix (o : Onto κ) (h : Heap κ) (n : Nat) : h <+: heapAfter o h n :=
  List.foldlRecOn (motive := (h <+: ·)) _ _ List.prefix_rfl fun hp hpre i _ => hpre.trans (extract_prefix o hp i)

end Hpv.Validate
