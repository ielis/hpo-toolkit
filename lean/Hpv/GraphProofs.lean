import Hpv.Graph

namespace Hpv.Graph

variable {κ : Type} [DecidableEq κ]

structure Ord.Strict (o : Ord κ) : Prop where
  irrefl : ∀ a, o.lt a a = false
  trans : ∀ a b c, o.lt a b = true → o.lt b c = true → o.lt a c = true
  total : ∀ a b, o.lt a b = true ∨ a = b ∨ o.lt b a = true

def Sorted (o : Ord κ) (l : List κ) : Prop := l.Pairwise (fun a b => o.lt a b = true)

theorem mem_ins (o : Ord κ) (x z : κ) (l : List κ) : z ∈ ins o x l ↔ z = x ∨ z ∈ l := by
  fun_induction ins o x l with
  | case1 => exact List.mem_singleton.trans (or_iff_left List.not_mem_nil).symm
  | case2 => exact List.mem_cons
  | case3 => rw [List.mem_cons]; exact ⟨.inr, fun h => h.elim .inl id⟩
  | case4 y ys _ _ ih => rw [List.mem_cons, ih, List.mem_cons, or_left_comm]

theorem sorted_ins (o : Ord κ) (hs : o.Strict) (x : κ) (l : List κ) (hl : Sorted o l) :
    Sorted o (ins o x l) := by
  fun_induction ins o x l with
  | case1 => exact List.pairwise_singleton _ _
  | case2 y ys h1 =>
    exact List.pairwise_cons.mpr
      ⟨fun z hz => (List.mem_cons.mp hz).elim (· ▸ h1) fun hz => hs.trans _ _ _ h1 ((List.pairwise_cons.mp hl).1 z hz), hl⟩
  | case3 => exact hl
  | case4 y ys h1 h2 ih =>
    obtain ⟨hy, hys⟩ := List.pairwise_cons.mp hl
    have hyx : o.lt y x = true := (hs.total x y).resolve_left h1 |>.resolve_left h2
    exact List.pairwise_cons.mpr ⟨fun z hz => ((mem_ins o x z ys).mp hz).elim (· ▸ hyx) (hy z), ih hys⟩

theorem mem_sortDedup (o : Ord κ) (xs : List κ) (z : κ) : z ∈ sortDedup o xs ↔ z ∈ xs := by
  induction xs with
  | nil => exact Iff.rfl
  | cons x xs ih => exact (mem_ins o x z _).trans ((or_congr_right ih).trans List.mem_cons.symm)

theorem sorted_sortDedup (o : Ord κ) (hs : o.Strict) (xs : List κ) : Sorted o (sortDedup o xs) :=
  xs.foldrRecOn (ins o) List.Pairwise.nil fun l hl x _ => sorted_ins o hs x l hl

theorem Sorted.nodup (o : Ord κ) (hs : o.Strict) (l : List κ) (h : Sorted o l) : l.Nodup :=
  List.Pairwise.imp (fun {a b} (hab : o.lt a b = true) (e : a = b) => by
    rw [e, hs.irrefl] at hab; cases hab) h

theorem Sorted.ext {o : Ord κ} (hs : o.Strict) {l1 l2 : List κ} (h1 : Sorted o l1) (h2 : Sorted o l2)
    (hmem : ∀ x, x ∈ l1 ↔ x ∈ l2) : l1 = l2 :=
  ((List.perm_ext_iff_of_nodup (h1.nodup o hs l1) (h2.nodup o hs l2)).mpr hmem).eq_of_pairwise
    (fun a _ _ _ hab hba => absurd ((hs.irrefl a).symm.trans (hs.trans _ _ _ hab hba)) Bool.false_ne_true) h1 h2

omit [DecidableEq κ] in
theorem mem_endpoints {l : List (Edge κ)} {x : κ} : x ∈ endpoints l ↔ ∃ e ∈ l, x = e.1 ∨ x = e.2 := by
  simp only [endpoints, List.mem_flatMap, List.mem_cons, List.not_mem_nil, or_false]

theorem mem_nodesOf_iff {o : Ord κ} {E : List (Edge κ)} {x : κ} : x ∈ nodesOf o E ↔ ∃ e ∈ E, x = e.1 ∨ x = e.2 := by
  rw [nodesOf, mem_sortDedup, mem_endpoints]

theorem mem_nodesOf (o : Ord κ) (E : List (Edge κ)) (e : Edge κ) (he : e ∈ E) :
    e.1 ∈ nodesOf o E ∧ e.2 ∈ nodesOf o E :=
  ⟨mem_nodesOf_iff.mpr ⟨e, he, .inl rfl⟩, mem_nodesOf_iff.mpr ⟨e, he, .inr rfl⟩⟩

theorem nodesOf_congr (o : Ord κ) (hs : o.Strict) {E₁ E₂ : List (Edge κ)} (h : ∀ e, e ∈ E₁ ↔ e ∈ E₂) :
    nodesOf o E₁ = nodesOf o E₂ :=
  Sorted.ext hs (sorted_sortDedup o hs _) (sorted_sortDedup o hs _) fun x => by simp only [mem_nodesOf_iff, h]

omit [DecidableEq κ] in
/-- on a strictly sorted array the elements below `x` are exactly those in front of `x` -/
theorem bisectLeft_eq {o : Ord κ} (hs : o.Strict) {a : List κ} (ha : Sorted o a) {x : κ} {i : Nat}
    (hi : a[i]? = some x) : bisectLeft o a x = i := by
  induction a generalizing i with
  | nil => cases hi
  | cons y ys ih =>
    obtain ⟨hy, hys⟩ := List.pairwise_cons.mp ha
    unfold bisectLeft
    rw [List.takeWhile_cons]
    cases i with
    | zero => cases hi; rw [hs.irrefl]; rfl
    | succ j =>
      rw [hy x (List.mem_of_getElem? hi), if_pos rfl, List.length_cons]
      exact congrArg (· + 1) (ih hys hi)

theorem indexOf?_spec {o : Ord κ} (hs : o.Strict) {a : List κ} (ha : Sorted o a) {x : κ} {i : Nat} :
    indexOf? o a x = some i ↔ a[i]? = some x := by
  unfold indexOf?
  dsimp only
  constructor
  · intro h
    split at h
    · next y hy =>
      split at h
      · next e => cases h; rw [hy, e]
      · cases h
    · cases h
  · intro h
    rw [bisectLeft_eq hs ha h, h]
    exact if_pos rfl

theorem exists_indexOf? {o : Ord κ} (hs : o.Strict) {a : List κ} (ha : Sorted o a) {x : κ} (hx : x ∈ a) :
    ∃ i, a[i]? = some x ∧ indexOf? o a x = some i :=
  have ⟨i, hi⟩ := List.getElem?_of_mem hx
  ⟨i, hi, (indexOf?_spec hs ha).mpr hi⟩

theorem indexOf?_none {o : Ord κ} (hs : o.Strict) {a : List κ} (ha : Sorted o a) {x : κ} :
    indexOf? o a x = none ↔ x ∉ a := by
  rw [Option.eq_none_iff_forall_ne_some, List.mem_iff_getElem?, not_exists]
  exact forall_congr' fun i => not_congr (indexOf?_spec hs ha)

/-- what one edge adds to the list kept under key `k`: itself once per endpoint whose index is `k` -/
def contrib (o : Ord κ) (nodes : List κ) (k : Option Nat) (e : Edge κ) : List (Edge κ) :=
  (if k = indexOf? o nodes e.1 then [e] else []) ++ (if k = indexOf? o nodes e.2 then [e] else [])

/-- the last-subject cache holds the index of the subject it remembers -/
def CacheOk (o : Ord κ) (nodes : List κ) (st : AdjState κ) : Prop :=
  ∀ s, st.lastSub = some s → st.lastIdx = indexOf? o nodes s

omit [DecidableEq κ] in
theorem push_apply (d : Adj κ) (k k' : Option Nat) (e : Edge κ) :
    d.push k e k' = d k' ++ if k' = k then [e] else [] := by
  unfold Adj.push
  split
  · rfl
  · exact (List.append_nil _).symm

theorem adjStep_spec (o : Ord κ) (nodes : List κ) (st : AdjState κ) (e : Edge κ) (hc : CacheOk o nodes st) :
    CacheOk o nodes (adjStep o nodes st e) ∧
    ∀ k, (adjStep o nodes st e).data k = st.data k ++ contrib o nodes k e := by
  unfold adjStep
  dsimp only
  by_cases h : st.lastSub = some e.1
  · rw [if_pos h]
    exact ⟨hc, fun k => by rw [push_apply, push_apply, hc e.1 h, List.append_assoc]; rfl⟩
  · rw [if_neg h]
    exact ⟨fun s hs => by cases hs; rfl, fun k => by rw [push_apply, push_apply, List.append_assoc]; rfl⟩

theorem foldl_adjStep_spec (o : Ord κ) (nodes : List κ) (E : List (Edge κ)) (st : AdjState κ)
    (hc : CacheOk o nodes st) (k : Option Nat) :
    (E.foldl (adjStep o nodes) st).data k = st.data k ++ E.flatMap (contrib o nodes k) := by
  induction E generalizing st with
  | nil => exact (List.append_nil _).symm
  | cons e es ih =>
    obtain ⟨hc', hd⟩ := adjStep_spec o nodes st e hc
    rw [List.foldl_cons, List.flatMap_cons, ih _ hc', hd k, List.append_assoc]

/-- The cache is unobservable: the collected edges are what a cache-free scan collects. -/
theorem findAdjacent_spec (o : Ord κ) (nodes : List κ) (E : List (Edge κ)) (k : Option Nat) :
    findAdjacent o nodes E k = E.flatMap (contrib o nodes k) :=
  foldl_adjStep_spec o nodes E _ (fun _ h => by cases h) k

/-- what the scan files under the index of `node`: every edge once per end that is `node` -/
def ends (node : κ) (e : Edge κ) : List (Edge κ) := (if e.1 = node then [e] else []) ++ (if e.2 = node then [e] else [])

theorem findAdjacent_row {o : Ord κ} {nodes : List κ} (hs : o.Strict) (hsorted : Sorted o nodes) (E : List (Edge κ))
    (i : Nat) (node : κ) (hi : nodes[i]? = some node) : findAdjacent o nodes E (some i) = E.flatMap (ends node) := by
  have hidx : ∀ x, some i = indexOf? o nodes x ↔ x = node := fun x => by
    rw [eq_comm, indexOf?_spec hs hsorted, hi, Option.some.injEq, eq_comm]
  rw [findAdjacent_spec]
  exact congrArg E.flatMap (funext fun e => by simp only [contrib, ends, hidx])

/-- the edges at `source` split into those that end there (children) and those that start there (parents) -/
theorem foldl_rowStep_ends (o : Ord κ) (nodes : List κ) (source : κ) (es : List (Edge κ))
    (hloop : ∀ e ∈ es, e.1 ≠ e.2) (acc : List (Option Nat) × List (Option Nat)) :
    (es.flatMap (ends source)).foldl (rowStep o nodes source) acc =
      (acc.1 ++ (es.filter (fun e => decide (e.2 = source))).map (fun e => indexOf? o nodes e.1),
       acc.2 ++ (es.filter (fun e => decide (e.1 = source))).map (fun e => indexOf? o nodes e.2)) := by
  induction es generalizing acc with
  | nil => simp
  | cons e es ih =>
    -- a self-loop would be kept twice, and `rowStep` would file it under children both times
    have hne := hloop e List.mem_cons_self
    have ih := fun acc => ih (fun x hx => hloop x (List.mem_cons_of_mem _ hx)) acc
    by_cases h2 : e.2 = source
    · have h1 : e.1 ≠ source := fun h => hne (h.trans h2.symm)
      simp [ends, h1, h2, ih, rowStep]
    · by_cases h1 : e.1 = source
      · simp [ends, h1, h2, ih, rowStep, Ne.symm h2]
      · simp [ends, h1, h2, ih]

/-- Row `i` of the children / parents arrays, in terms of the edge list alone. -/
theorem rowTargets_spec (o : Ord κ) (hs : o.Strict) (E : List (Edge κ))
    (hloop : ∀ e ∈ E, e.1 ≠ e.2) (i : Nat) (source : κ)
    (hsrc : (nodesOf o E)[i]? = some source) :
    rowTargets o (nodesOf o E) (findAdjacent o (nodesOf o E) E) i source =
      ((E.filter (fun e => decide (e.2 = source))).map (fun e => indexOf? o (nodesOf o E) e.1),
       (E.filter (fun e => decide (e.1 = source))).map (fun e => indexOf? o (nodesOf o E) e.2)) := by
  rw [rowTargets, findAdjacent_row (nodes := nodesOf o E) hs (sorted_sortDedup o hs _) E i source hsrc,
    foldl_rowStep_ends o _ source E hloop]
  rfl

end Hpv.Graph
