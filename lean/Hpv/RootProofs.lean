/-
Edge de-duplication and `_phenol_find_root`: the rooted edge list as a function of the edge SET, its nodes, its root. A finite acyclic
hierarchy has a parentless term above every node (`exists_parentless_ancestor`), so root finding is total and every node reaches the root.
-/
import Hpv.GraphModel
import Hpv.GraphProofs
import Hpv.ListFacts

section
open Relation

/-- in a finite acyclic hierarchy the upward walk from any node ends in a node without parents -/
theorem exists_parentless_ancestor {κ : Type} (nodes : List κ) (isA : κ → κ → Prop)
    (hclosed : ∀ a b, isA a b → a ∈ nodes ∧ b ∈ nodes)
    (hacyc : ∀ x, ¬ TransGen isA x x) :
    ∀ v ∈ nodes, ∃ r ∈ nodes, (r = v ∨ TransGen isA v r) ∧ ∀ p, ¬ isA r p := by
  have mem : ∀ {v a}, TransGen isA v a → a ∈ nodes := fun h => by cases h <;> exact (hclosed _ _ ‹_›).2
  -- by induction on a list `l` that holds whatever `v` reaches
  have key : ∀ (l : List κ) v, (∀ x, TransGen isA v x → x ∈ l) → ∃ r, (r = v ∨ TransGen isA v r) ∧ ∀ p, ¬ isA r p := by
    intro l
    induction l with
    | nil => exact fun v hl => ⟨v, .inl rfl, fun p hp => List.not_mem_nil (hl p (.single hp))⟩
    | cons a l ih =>
      intro v hl
      by_cases ha : TransGen isA v a
      · -- what `a` reaches, `v` reaches too, and `a` is not among it: `l` holds it
        obtain ⟨r, hreach, hnone⟩ := ih a fun x hx =>
          (List.mem_cons.mp (hl x (ha.trans hx))).resolve_left fun e => hacyc a (e ▸ hx)
        exact ⟨r, .inr (hreach.elim (· ▸ ha) ha.trans), hnone⟩
      · exact ih v fun x hx => (List.mem_cons.mp (hl x hx)).resolve_left fun e => ha (e ▸ hx)
  intro v hv
  obtain ⟨r, hreach, hnone⟩ := key nodes v fun _ => mem
  exact ⟨r, hreach.elim (· ▸ hv) mem, hreach, hnone⟩
#print axioms exists_parentless_ancestor

end

namespace Hpv.GM
open Hpv.Graph Relation

variable {κ : Type} [DecidableEq κ]

theorem mem_dedup {α} [DecidableEq α] (l : List α) (x : α) : x ∈ dedup l ↔ x ∈ l :=
  (dedup_spec dedup rfl (fun _ _ => rfl) l).2 x

theorem nodup_dedup {α} [DecidableEq α] (l : List α) : (dedup l).Nodup := (dedup_spec dedup rfl (fun _ _ => rfl) l).1

/-- a term is parentless when it is the object of some edge and the subject of none -/
def Parentless (E : List (Edge κ)) (x : κ) : Prop := (∃ e ∈ E, e.2 = x) ∧ ∀ e ∈ E, e.1 ≠ x

theorem mem_candidates (E : List (Edge κ)) (x : κ) : x ∈ candidates E ↔ Parentless E x := by
  simp only [candidates, Parentless, mem_dedup, List.mem_filter, List.mem_map, Bool.not_eq_true', ← Bool.not_eq_true,
    List.contains_iff_mem, not_exists, not_and, ne_eq]

theorem nodup_candidates (E : List (Edge κ)) : (candidates E).Nodup := nodup_dedup _

/-- The edge list after root finding: the original edges, plus `c → owl:Thing` for every parentless `c`
exactly when there are at least two of them; the root is the only parentless term, or `owl:Thing`. -/
theorem findRoot_spec {owl : κ} {E : List (Edge κ)} {root : κ} {E' : List (Edge κ)}
    (h : findRoot owl E = .ok (root, E')) :
    ((candidates E = [root] ∧ E' = E) ∨
     (2 ≤ (candidates E).length ∧ root = owl ∧ E' = E ++ (candidates E).map (fun c => (c, owl)))) := by
  unfold findRoot at h
  split at h
  · cases h
  · next c hc => cases h; exact .inl ⟨hc, rfl⟩
  · next h0 h1 =>
    cases h
    refine .inr ⟨?_, rfl, rfl⟩
    match hcs : candidates E with
    | [] => exact absurd hcs h0
    | [c] => exact absurd hcs (h1 c)
    | _ :: _ :: _ => exact Nat.le_add_left 2 _

theorem not_many_of_single {E : List (Edge κ)} {c : κ} (h : candidates E = [c]) : ¬ 2 ≤ (candidates E).length := by
  rw [h]; exact Nat.not_succ_le_self 1

theorem findRoot_mem {owl : κ} {E : List (Edge κ)} {root : κ} {E' : List (Edge κ)}
    (h : findRoot owl E = .ok (root, E')) (e : Edge κ) :
    e ∈ E' ↔ e ∈ E ∨ (2 ≤ (candidates E).length ∧ e.2 = owl ∧ Parentless E e.1) := by
  rcases findRoot_spec h with ⟨h1, rfl⟩ | ⟨h2, _, rfl⟩
  · exact ⟨.inl, fun h => h.resolve_right fun h' => not_many_of_single h1 h'.1⟩
  · simp only [List.mem_append, List.mem_map]
    constructor
    · rintro (h | ⟨c, hc, rfl⟩)
      · exact Or.inl h
      · exact Or.inr ⟨h2, rfl, (mem_candidates E c).mp hc⟩
    · rintro (h | ⟨_, ho, hp⟩)
      · exact Or.inl h
      · exact Or.inr ⟨e.1, (mem_candidates E e.1).mpr hp, by rw [← ho]⟩

theorem findRoot_ok (owl : κ) (E : List (Edge κ)) (h : candidates E ≠ []) : ∃ r E', findRoot owl E = .ok (r, E') := by
  unfold findRoot
  split
  · rename_i h0; exact absurd h0 h
  · exact ⟨_, _, rfl⟩
  · exact ⟨_, _, rfl⟩

/-- this is what the de-duplication in `create_graph` buys -/
theorem rooted_nodup {owl : κ} {E : List (Edge κ)} {root : κ} {E' : List (Edge κ)}
    (h : findRoot owl (dedup E) = .ok (root, E')) : E'.Nodup := by
  rcases findRoot_spec h with ⟨_, rfl⟩ | ⟨_, _, rfl⟩
  · exact nodup_dedup E
  · refine List.nodup_append.mpr ⟨nodup_dedup E, ?_, ?_⟩
    · exact List.pairwise_map.mpr ((nodup_candidates _).imp fun hab heq => hab (Prod.mk.inj heq).1)
    · rintro a ha _ hb rfl
      obtain ⟨c, hc, rfl⟩ := List.mem_map.mp hb
      exact ((mem_candidates _ c).mp hc).2 _ ha rfl

theorem root_mem_nodesOf (o : Graph.Ord κ) {owl : κ} {E : List (Edge κ)} {root : κ} {E' : List (Edge κ)}
    (h : findRoot owl E = .ok (root, E')) : root ∈ nodesOf o E' := by
  rcases findRoot_spec h with ⟨h1, rfl⟩ | ⟨h2, rfl, rfl⟩
  · obtain ⟨⟨e, he, rfl⟩, _⟩ := (mem_candidates _ _).mp (h1 ▸ List.mem_singleton_self root)
    exact (mem_nodesOf o _ e he).2
  · obtain ⟨c, hc⟩ := List.exists_mem_of_length_pos (Nat.lt_of_lt_of_le Nat.zero_lt_two h2)
    exact (mem_nodesOf o _ (c, root) (List.mem_append_right _ (List.mem_map.mpr ⟨c, hc, rfl⟩))).2

section
variable {owl : κ} {E : List (Edge κ)} {root : κ} {E' : List (Edge κ)}

theorem mem_nodesOf_rooted (o : Graph.Ord κ) (h : findRoot owl (dedup E) = .ok (root, E')) (x : κ) :
    x ∈ nodesOf o E' ↔ x ∈ endpoints E ∨ (x = owl ∧ 2 ≤ (candidates (dedup E)).length) := by
  simp only [mem_nodesOf_iff, mem_endpoints, findRoot_mem h, mem_dedup]
  constructor
  · rintro ⟨e, he | ⟨h2, ho, ⟨e', he', h3⟩, _⟩, hx⟩
    · exact .inl ⟨e, he, hx⟩
    · rcases hx with rfl | rfl
      · exact .inl ⟨e', (mem_dedup E e').mp he', .inr h3.symm⟩
      · exact .inr ⟨ho, h2⟩
  · rintro (⟨e, he, hx⟩ | ⟨rfl, h2⟩)
    · exact ⟨e, .inl he, hx⟩
    · obtain ⟨c, hc⟩ := List.exists_mem_of_length_pos (Nat.lt_of_lt_of_le Nat.zero_lt_two h2)
      exact ⟨(c, x), .inr ⟨h2, rfl, (mem_candidates _ c).mp hc⟩, .inr rfl⟩

theorem rooted_subject_mem_endpoints (h : findRoot owl (dedup E) = .ok (root, E')) {e : Edge κ} (he : e ∈ E') : e.1 ∈ endpoints E := by
  rcases (findRoot_mem h e).mp he with h1 | ⟨_, _, ⟨e', he', hea⟩, _⟩
  · exact mem_endpoints.mpr ⟨e, (mem_dedup E e).mp h1, .inl rfl⟩
  · exact mem_endpoints.mpr ⟨e', (mem_dedup E e').mp he', .inr hea.symm⟩

/-- `howl` is `C02.OwlOk`: the synthetic root is fresh when it is added -/
theorem root_not_subject (h : findRoot owl (dedup E) = .ok (root, E'))
    (howl : 2 ≤ (candidates (dedup E)).length → owl ∉ endpoints E) : ∀ e ∈ E', e.1 ≠ root := by
  intro e he hroot
  rcases findRoot_spec h with ⟨h1, rfl⟩ | ⟨h2, rfl, _⟩
  · exact ((mem_candidates _ _).mp (h1 ▸ List.mem_singleton_self root)).2 e he hroot
  · exact howl h2 (hroot ▸ rooted_subject_mem_endpoints h he)

/-- Root finding keeps the hierarchy acyclic: with a single parentless term nothing is added (whether or not the edges
mention `owl:Thing`), with several the fresh `owl:Thing` is put on top. -/
theorem acyclic_rooted (h : findRoot owl (dedup E) = .ok (root, E'))
    (howl : 2 ≤ (candidates (dedup E)).length → owl ∉ endpoints E)
    (hacyc : ∀ x, ¬ TransGen (fun a b => (a, b) ∈ E) x x) : ∀ x, ¬ TransGen (fun a b => (a, b) ∈ E') x x := by
  have hsub := fun {e} => rooted_subject_mem_endpoints h (e := e)
  -- an edge that arrives at a term of the input is an edge of the input (the synthetic ones arrive at the fresh `owl:Thing`)
  have hstep : ∀ a b, (a, b) ∈ E' → b ∈ endpoints E → (a, b) ∈ E := fun a b hab hb =>
    ((findRoot_mem h (a, b)).mp hab).elim (mem_dedup E _).mp fun h' => absurd (h'.2.1 ▸ hb) (howl h'.1)
  -- so a path that arrives at one is a path of the input: whatever an edge leaves is a term of the input
  have hpath : ∀ a b, TransGen (fun a b => (a, b) ∈ E') a b → b ∈ endpoints E → TransGen (fun a b => (a, b) ∈ E) a b := by
    intro a b hab
    induction hab with
    | single hh => exact fun hb => .single (hstep _ _ hh hb)
    | tail _ hh ih => exact fun hb => .tail (ih (hsub hh)) (hstep _ _ hh hb)
  intro x hx
  obtain ⟨y, hy⟩ := transGen_first_step hx
  exact hacyc x (hpath x x hx (hsub hy))

theorem parentless_rooted (h : findRoot owl (dedup E) = .ok (root, E')) {r : κ} (hr : Parentless E' r) : r = root := by
  obtain ⟨⟨e, he, rfl⟩, hnone⟩ := hr
  rcases findRoot_spec h with ⟨h1, rfl⟩ | ⟨_, rfl, rfl⟩
  · exact List.mem_singleton.mp (h1 ▸ (mem_candidates _ e.2).mpr ⟨⟨e, he, rfl⟩, hnone⟩)
  · rcases List.mem_append.mp he with h3 | h3
    · -- a parentless term of the input is the subject of a synthetic edge
      have hc := (mem_candidates _ e.2).mpr ⟨⟨e, h3, rfl⟩, fun e' he' => hnone e' (List.mem_append_left _ he')⟩
      exact absurd rfl (hnone (e.2, root) (List.mem_append_right _ (List.mem_map.mpr ⟨e.2, hc, rfl⟩)))
    · obtain ⟨c, _, rfl⟩ := List.mem_map.mp h3
      rfl

omit [DecidableEq κ] in
theorem parentless_congr {E₁ E₂ : List (Edge κ)} (hE : ∀ e, e ∈ E₁ ↔ e ∈ E₂) (x : κ) :
    Parentless E₁ x ↔ Parentless E₂ x := by
  simp only [Parentless, hE]

/-- root finding depends on the edge set only -/
theorem rooted_congr {E₁ E₂ : List (Edge κ)} {root₁ root₂ : κ} {E₁' E₂' : List (Edge κ)} (hE : ∀ e, e ∈ E₁ ↔ e ∈ E₂)
    (h₁ : findRoot owl E₁ = .ok (root₁, E₁')) (h₂ : findRoot owl E₂ = .ok (root₂, E₂')) :
    root₁ = root₂ ∧ ∀ e, e ∈ E₁' ↔ e ∈ E₂' := by
  have hC : (candidates E₁).Perm (candidates E₂) :=
    (List.perm_ext_iff_of_nodup (nodup_candidates _) (nodup_candidates _)).mpr fun x => by
      rw [mem_candidates, mem_candidates, parentless_congr hE]
  refine ⟨?_, fun e => ?_⟩
  · rcases findRoot_spec h₁ with ⟨a1, _⟩ | ⟨a1, a2, _⟩ <;>
      rcases findRoot_spec h₂ with ⟨b1, _⟩ | ⟨b1, b2, _⟩
    · exact List.mem_singleton.mp (b1 ▸ hC.subset (a1 ▸ List.mem_singleton_self root₁))
    · exact absurd (hC.length_eq ▸ b1) (not_many_of_single a1)
    · exact absurd (hC.length_eq ▸ a1) (not_many_of_single b1)
    · rw [a2, b2]
  · rw [findRoot_mem h₁, findRoot_mem h₂, hE, parentless_congr hE, hC.length_eq]

omit [DecidableEq κ] in
theorem exists_parentless_above (hacyc : ∀ x, ¬ TransGen (fun a b => (a, b) ∈ E) x x) {v : κ} (hv : v ∈ endpoints E) :
    ∃ r, Parentless E r ∧ (r = v ∨ TransGen (fun a b => (a, b) ∈ E) v r) := by
  obtain ⟨r, hr, hreach, hnone⟩ := exists_parentless_ancestor (endpoints E) (fun a b => (a, b) ∈ E)
    (fun a b hab => ⟨mem_endpoints.mpr ⟨_, hab, .inl rfl⟩, mem_endpoints.mpr ⟨_, hab, .inr rfl⟩⟩) hacyc v hv
  obtain ⟨e, he, hre⟩ := mem_endpoints.mp hr
  -- `r` is an endpoint that no edge leaves, so it is the object of its edge
  have hobj : e.2 = r := hre.elim (fun h1 => absurd (h1 ▸ he) (hnone e.2)) Eq.symm
  exact ⟨r, ⟨⟨e, he, hobj⟩, fun e' he' heq => hnone e'.2 (heq ▸ he')⟩, hreach⟩

/-- the upward walk from the subject of the first edge ends in a parentless term -/
theorem findRoot_total (owl : κ) (hne : E ≠ []) (hacyc : ∀ x, ¬ TransGen (fun a b => (a, b) ∈ E) x x) :
    ∃ root E', findRoot owl (dedup E) = .ok (root, E') := by
  obtain ⟨e0, he0⟩ := List.exists_mem_of_ne_nil E hne
  obtain ⟨r, hr, _⟩ := exists_parentless_above hacyc (mem_endpoints.mpr ⟨e0, he0, .inl rfl⟩)
  exact findRoot_ok owl (dedup E)
    (List.ne_nil_of_mem ((mem_candidates _ r).mpr ((parentless_congr (mem_dedup E) r).mpr hr)))

/-- every upward walk ends (finite, acyclic), and it can only end in the root -/
theorem reaches_root (o : Graph.Ord κ) (h : findRoot owl (dedup E) = .ok (root, E'))
    (hacyc : ∀ x, ¬ TransGen (fun a b => (a, b) ∈ E') x x) {v : κ} (hv : v ∈ nodesOf o E') (hne : v ≠ root) :
    TransGen (fun a b => (a, b) ∈ E') v root := by
  obtain ⟨r, hr, hreach⟩ := exists_parentless_above hacyc (mem_endpoints.mpr (mem_nodesOf_iff.mp hv))
  obtain rfl := parentless_rooted h hr
  exact hreach.resolve_left (Ne.symm hne)

end
end Hpv.GM
