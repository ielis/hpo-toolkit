/-
The container model (Hpv/Sim.lean). The nested dict is only ever looked at under an ORDERED key: `find s k` is the value
stored under `k`, `put s k v` the write `d[k.1][k.2] = v`; a read is `find` at the normalised key with default 0, an accepted
`set` a `put` there. Histories are read most recent first, which is the order of `spec`; what a history stores is what it
was told to store. `WF` is the representation invariant every history keeps; under it `items` lists exactly what `find`
finds, so the listing determines the container.
-/
import Hpv.Sim
import Hpv.ListFacts
namespace Hpv.Sim

theorem lookup_cons {β} (k : Str) (p : Str × β) (l : List (Str × β)) :
    lookup k (p :: l) = if p.1 = k then some p.2 else lookup k l := rfl

theorem upsert_cons {β} (k : Str) (v : β) (p : Str × β) (l : List (Str × β)) :
    upsert k v (p :: l) = if p.1 = k then (k, v) :: l else p :: upsert k v l := rfl

theorem lookup_eq_find? {β} (k : Str) (l : List (Str × β)) : lookup k l = (l.find? fun p => p.1 = k).map Prod.snd := by
  induction l with
  | nil => rfl
  | cons p rest ih =>
    rw [lookup_cons, List.find?_cons, ih]
    by_cases h : p.1 = k
    · rw [if_pos h, decide_eq_true h]; rfl
    · rw [if_neg h, decide_eq_false h]

theorem lookup_upsert {β} (k k2 : Str) (v : β) (l : List (Str × β)) :
    lookup k2 (upsert k v l) = if k = k2 then some v else lookup k2 l := by
  fun_induction upsert k v l with
  | case1 => rfl
  | case2 v' rest =>
    rw [lookup_cons, lookup_cons]
    by_cases h2 : k = k2
    · rw [if_pos h2, if_pos h2]
    · rw [if_neg h2, if_neg h2, if_neg h2]
  | case3 k' v' rest hk ih =>
    rw [lookup_cons, lookup_cons, ih]
    by_cases h2 : k = k2
    · rw [if_pos h2, if_pos h2, if_neg (h2 ▸ hk)]
    · rw [if_neg h2, if_neg h2]

theorem lookup_eq_none_iff {β} (k : Str) (l : List (Str × β)) : lookup k l = none ↔ k ∉ l.map Prod.fst := by
  rw [lookup_eq_find?, Option.map_eq_none_iff, List.find?_eq_none]
  simp only [decide_eq_true_eq, List.mem_map, not_exists, not_and]

theorem mem_iff_lookup {β} {l : List (Str × β)} (h : (l.map Prod.fst).Nodup) {k : Str} {v : β} :
    (k, v) ∈ l ↔ lookup k l = some v := by
  rw [lookup_eq_find?, find?_fst_eq_some_iff h]

theorem upsert_of_not_mem {β} {k : Str} (v : β) {l : List (Str × β)} (h : k ∉ l.map Prod.fst) :
    upsert k v l = l ++ [(k, v)] := by
  fun_induction upsert k v l with
  | case1 => rfl
  | case2 v' rest => exact absurd List.mem_cons_self h
  | case3 k' v' rest hk ih => rw [ih fun hm => h (List.mem_cons_of_mem _ hm), List.cons_append]

theorem keys_upsert_of_mem {β} {k : Str} (v : β) {l : List (Str × β)} (h : k ∈ l.map Prod.fst) :
    (upsert k v l).map Prod.fst = l.map Prod.fst := by
  fun_induction upsert k v l with
  | case1 => exact absurd h List.not_mem_nil
  | case2 v' rest => rfl
  | case3 k' v' rest hk ih =>
    rw [List.map_cons, List.map_cons, ih ((List.mem_cons.mp h).resolve_left (Ne.symm hk))]

theorem nodup_upsert {β} (k : Str) (v : β) {l : List (Str × β)} (h : (l.map Prod.fst).Nodup) :
    ((upsert k v l).map Prod.fst).Nodup := by
  by_cases hk : k ∈ l.map Prod.fst
  · rwa [keys_upsert_of_mem v hk]
  · rw [upsert_of_not_mem v hk, List.map_append, List.nodup_append]
    exact ⟨h, List.pairwise_singleton _ _, fun a ha b hb e => hk (e.trans (List.mem_singleton.mp hb : b = k) ▸ ha)⟩

theorem mem_upsert {β} {k : Str} {v : β} {l : List (Str × β)} {p : Str × β} (h : p ∈ upsert k v l) :
    p = (k, v) ∨ p ∈ l := by
  fun_induction upsert k v l with
  | case1 => exact Or.inl (List.mem_singleton.mp h)
  | case2 v' rest => exact (List.mem_cons.mp h).imp_right (List.mem_cons_of_mem _)
  | case3 k' v' rest hk ih =>
    rcases List.mem_cons.mp h with h | h
    · exact Or.inr (h ▸ List.mem_cons_self)
    · exact (ih h).imp_right (List.mem_cons_of_mem _)

theorem upsert_ne_nil {β} (k : Str) (v : β) (l : List (Str × β)) : upsert k v l ≠ [] := by
  fun_cases upsert k v l <;> exact List.cons_ne_nil _ _

theorem sle_iff_le (a b : Str) : sle a b = true ↔ a ≤ b := by
  induction a generalizing b with
  | nil => simp [sle]
  | cons x xs ih =>
    cases b with
    | nil => simp [sle]
    | cons y ys =>
      simp only [sle, List.cons_le_cons_iff, ← ih, Bool.if_true_left, Bool.if_false_right, Bool.or_eq_true,
        Bool.and_eq_true, decide_eq_true_eq]

theorem norm_of_sle {o i : Str} (h : sle o i = true) : norm o i = (o, i) := if_pos h

theorem norm_of_not_sle {a b : Str} (h : ¬ sle a b = true) : norm a b = (b, a) := if_neg h

theorem norm_comm (a b : Str) : norm a b = norm b a := by
  by_cases hab : sle a b = true <;> by_cases hba : sle b a = true
  · rw [List.le_antisymm ((sle_iff_le a b).mp hab) ((sle_iff_le b a).mp hba)]
  · rw [norm_of_sle hab, norm_of_not_sle hba]
  · rw [norm_of_not_sle hab, norm_of_sle hba]
  · exact absurd (List.le_total a b) (by rw [← sle_iff_le, ← sle_iff_le]; exact not_or.mpr ⟨hab, hba⟩)

theorem norm_sle (a b : Str) : sle (norm a b).1 (norm a b).2 = true := by
  by_cases hab : sle a b = true
  · rw [norm_of_sle hab]; exact hab
  · rw [norm_of_not_sle hab, sle_iff_le]
    exact (List.le_total b a).resolve_right (by rwa [← sle_iff_le])

theorem norm_cases (a b : Str) : norm a b = (a, b) ∨ norm a b = (b, a) := by
  unfold norm; split
  · exact Or.inl rfl
  · exact Or.inr rfl

theorem norm_eq_iff (a b x y : Str) : norm a b = norm x y ↔ (a = x ∧ b = y) ∨ (a = y ∧ b = x) := by
  constructor
  · intro h
    rcases norm_cases a b with h1 | h1 <;> rcases norm_cases x y with h2 | h2 <;>
      rw [h1, h2, Prod.mk.injEq] at h
    · exact Or.inl h
    · exact Or.inr h
    · exact Or.inr ⟨h.2, h.1⟩
    · exact Or.inl ⟨h.2, h.1⟩
  · rintro (⟨rfl, rfl⟩ | ⟨rfl, rfl⟩)
    · rfl
    · exact norm_comm a b

def find (s : State) (k : Str × Str) : Option Int := (lookup k.1 s).bind (lookup k.2)

/-- `d[k.1][k.2] = v` on the nested `defaultdict` -/
def put (s : State) (k : Str × Str) (v : Int) : State := upsert k.1 (upsert k.2 v ((lookup k.1 s).getD [])) s

/-- the `if outer:` test of `get_similarity` is not observable -/
theorem get_eq_find (s : State) (a b : Str) : get s a b = (find s (norm a b)).getD 0 := by
  unfold get find
  generalize norm a b = k
  obtain ⟨o, i⟩ := k
  dsimp only
  cases lookup o s with
  | none => rfl
  | some inner => cases inner <;> rfl

theorem set_eq (s : State) (a b : Str) (v : Int) :
    set s a b v = if v < 0 then .error .valueError else .ok (put s (norm a b) v) := rfl

theorem stepOp_set (s : State) (a b : Str) (v : Int) :
    stepOp s (.set a b v) = if v < 0 then s else put s (norm a b) v := by
  by_cases h : v < 0 <;> simp only [stepOp, set_eq, h, if_true, if_false]

theorem find_put (s : State) (k k' : Str × Str) (v : Int) :
    find (put s k v) k' = if k = k' then some v else find s k' := by
  obtain ⟨o, i⟩ := k
  obtain ⟨o', i'⟩ := k'
  simp only [find, put, lookup_upsert, Prod.mk.injEq]
  by_cases ho : o = o'
  · subst ho
    simp only [if_true, Option.bind_some, lookup_upsert, true_and]
    cases lookup o s <;> rfl
  · simp only [ho, if_false, false_and]

theorem get_put (s : State) (k : Str × Str) (v : Int) (x y : Str) :
    get (put s k v) x y = if k = norm x y then v else get s x y := by
  rw [get_eq_find, get_eq_find, find_put]
  split <;> rfl

theorem get_set (s s' : State) (a b x y : Str) (v : Int) (h : set s a b v = .ok s') :
    get s' x y = if norm a b = norm x y then v else get s x y := by
  rw [set_eq] at h
  split at h
  · cases h
  · cases h; exact get_put ..

theorem get_congr (s : State) {a b x y : Str} (h : norm a b = norm x y) : get s a b = get s x y := by
  rw [get_eq_find, get_eq_find, h]

theorem get_comm (s : State) (a b : Str) : get s a b = get s b a := get_congr s (norm_comm a b)

theorem get_run (ops : List Op) (x y : Str) : get (run ops) x y = spec ops.reverse x y := by
  rw [run, List.foldl_eq_foldr_reverse]
  induction ops.reverse with
  | nil => rfl
  | cons op hist ih =>
    rw [List.foldr_cons]
    cases op with
    | set a b v =>
      rw [stepOp_set, spec]
      by_cases hv : v < 0
      · rw [if_pos hv, if_pos hv, ih]
      · rw [if_neg hv, if_neg hv, get_put, ih]
    | get a b => exact ih
    | len => exact ih

/-- representation invariant of the nested dict -/
structure WF (s : State) : Prop where
  outer : (s.map Prod.fst).Nodup
  inner : ∀ p ∈ s, (p.2.map Prod.fst).Nodup ∧ p.2 ≠ [] ∧ ∀ q ∈ p.2, sle p.1 q.1 = true ∧ 0 ≤ q.2

theorem wf_nil : WF [] := ⟨List.nodup_nil, fun _ h => absurd h List.not_mem_nil⟩

theorem wf_put {s : State} (hwf : WF s) {k : Str × Str} {v : Int} (hk : sle k.1 k.2 = true) (hv : 0 ≤ v) :
    WF (put s k v) := by
  -- the inner dict that is updated: the one stored under `k.1`, or a fresh one
  have hin : (((lookup k.1 s).getD []).map Prod.fst).Nodup ∧ ∀ q ∈ (lookup k.1 s).getD [], sle k.1 q.1 = true ∧ 0 ≤ q.2 := by
    cases hl : lookup k.1 s with
    | none => exact ⟨List.nodup_nil, fun _ h => absurd h List.not_mem_nil⟩
    | some inner =>
      have := hwf.inner _ ((mem_iff_lookup hwf.outer).mpr hl)
      exact ⟨this.1, this.2.2⟩
  refine ⟨nodup_upsert _ _ hwf.outer, fun p hp => ?_⟩
  rcases mem_upsert hp with rfl | hp
  · refine ⟨nodup_upsert _ _ hin.1, upsert_ne_nil _ _ _, fun q hq => ?_⟩
    rcases mem_upsert hq with rfl | hq
    · exact ⟨hk, hv⟩
    · exact hin.2 q hq
  · exact hwf.inner p hp

theorem wf_stepOp {s : State} (hwf : WF s) (op : Op) : WF (stepOp s op) := by
  cases op with
  | set a b v =>
    rw [stepOp_set]
    split
    · exact hwf
    · exact wf_put hwf (norm_sle a b) (by omega)
  | get a b => exact hwf
  | len => exact hwf

theorem wf_run (ops : List Op) : WF (run ops) :=
  List.foldlRecOn ops stepOp wf_nil fun _ hwf op _ => wf_stepOp hwf op

theorem find_eq_some_iff {s : State} {o i : Str} {v : Int} :
    find s (o, i) = some v ↔ ∃ inner, lookup o s = some inner ∧ lookup i inner = some v :=
  Option.bind_eq_some_iff

theorem mem_items_iff {s : State} (hwf : WF s) {o i : Str} {v : Int} : (o, i, v) ∈ items s ↔ find s (o, i) = some v := by
  simp only [items, find_eq_some_iff, List.mem_flatMap, List.mem_map, Prod.mk.injEq]
  constructor
  · rintro ⟨p, hp, q, hq, rfl, rfl, rfl⟩
    exact ⟨p.2, (mem_iff_lookup hwf.outer).mp hp, (mem_iff_lookup (hwf.inner p hp).1).mp hq⟩
  · rintro ⟨inner, h1, h2⟩
    have hp := (mem_iff_lookup hwf.outer).mpr h1
    exact ⟨(o, inner), hp, (i, v), (mem_iff_lookup (hwf.inner _ hp).1).mpr h2, rfl, rfl, rfl⟩

theorem len_eq_items (s : State) : len s = (items s).length := by
  simp only [len, items, List.length_flatMap, List.length_map]

theorem ordered_nonneg_of_find {s : State} (hwf : WF s) {o i : Str} {v : Int} (h : find s (o, i) = some v) : sle o i = true ∧ 0 ≤ v := by
  obtain ⟨inner, h1, h2⟩ := find_eq_some_iff.mp h
  have hp := (mem_iff_lookup hwf.outer).mpr h1
  exact (hwf.inner _ hp).2.2 _ ((mem_iff_lookup (hwf.inner _ hp).1).mpr h2)

theorem nodup_items_keys {s : State} (hwf : WF s) : ((items s).map (fun t => (t.1, t.2.1))).Nodup := by
  simp only [items, List.map_flatMap, List.map_map, Function.comp_def]
  refine List.pairwise_flatMap.mpr ⟨fun p hp => ?_, ?_⟩
  · exact List.pairwise_map.mpr ((List.pairwise_map.mp (hwf.inner p hp).1).imp fun h e => h (Prod.mk.inj e).2)
  · refine (List.pairwise_map.mp hwf.outer).imp fun h x hx y hy e => ?_
    obtain ⟨_, _, rfl⟩ := List.mem_map.mp hx
    obtain ⟨_, _, rfl⟩ := List.mem_map.mp hy
    exact h (Prod.mk.inj e).1

theorem items_spec {s : State} (hwf : WF s) :
    ((items s).map (fun t => (t.1, t.2.1))).Nodup ∧
    ∀ o i v, (o, i, v) ∈ items s → sle o i = true ∧ get s o i = v ∧ 0 ≤ v := by
  refine ⟨nodup_items_keys hwf, fun o i v h => ?_⟩
  rw [mem_items_iff hwf] at h
  obtain ⟨h1, h2⟩ := ordered_nonneg_of_find hwf h
  exact ⟨h1, by rw [get_eq_find, norm_of_sle h1, h]; rfl, h2⟩

theorem get_not_stored {s : State} (hwf : WF s) {x y : Str} (h : ∀ v, ((norm x y).1, (norm x y).2, v) ∉ items s) :
    get s x y = 0 := by
  rw [get_eq_find]
  cases hf : find s (norm x y) with
  | none => rfl
  | some v => exact absurd ((mem_items_iff hwf).mpr hf) (h v)

theorem find_stepOp_set (s : State) (a b : Str) (v : Int) (k : Str × Str) :
    find (stepOp s (.set a b v)) k = if 0 ≤ v ∧ norm a b = k then some v else find s k := by
  rw [stepOp_set]
  by_cases hv : v < 0
  · rw [if_pos hv, if_neg fun h => Int.not_lt.mpr h.1 hv]
  · rw [if_neg hv, find_put]
    by_cases hk : norm a b = k
    · rw [if_pos hk, if_pos ⟨Int.not_lt.mp hv, hk⟩]
    · rw [if_neg hk, if_neg fun h => hk h.2]

/-- what a history stores, it was told to store -/
theorem mem_of_find_run {ops : List Op} {k : Str × Str} {v : Int} (h : find (run ops) k = some v) :
    ∃ a b, Op.set a b v ∈ ops ∧ 0 ≤ v ∧ norm a b = k := by
  refine List.foldlRecOn ops stepOp (motive := fun s => find s k = some v → _) (fun h => by cases h)
    (fun s ih op hop h => ?_) h
  cases op with
  | set a b w =>
    rw [find_stepOp_set] at h
    split at h
    · next hc => cases h; exact ⟨a, b, hop, hc⟩
    · exact ih h
  | get a b => exact ih h
  | len => exact ih h

/-- and the key of an accepted write stays bound, whatever is done afterwards (possibly to a later value) -/
theorem find_run_of_mem {ops : List Op} {a b : Str} {v : Int} (hm : Op.set a b v ∈ ops) (hv : 0 ≤ v) :
    ∃ w, find (run ops) (norm a b) = some w := by
  obtain ⟨pre, post, rfl⟩ := List.append_of_mem hm
  rw [run, List.foldl_append, List.foldl_cons]
  refine List.foldlRecOn (motive := fun s => ∃ w, find s (norm a b) = some w) post stepOp
    ⟨v, by rw [find_stepOp_set, if_pos ⟨hv, rfl⟩]⟩ fun s ⟨w, h⟩ op _ => ?_
  cases op with
  | set a' b' w' =>
    rw [find_stepOp_set]
    split
    · exact ⟨w', rfl⟩
    · exact ⟨w, h⟩
  | get => exact ⟨w, h⟩
  | len => exact ⟨w, h⟩

theorem stored_run (ops : List Op) (k : Str × Str) :
    (∃ v, find (run ops) k = some v) ↔ ∃ a b v, Op.set a b v ∈ ops ∧ 0 ≤ v ∧ norm a b = k := by
  constructor
  · rintro ⟨v, h⟩
    obtain ⟨a, b, h⟩ := mem_of_find_run h
    exact ⟨a, b, v, h⟩
  · rintro ⟨_, _, _, hm, hv, rfl⟩
    exact find_run_of_mem hm hv

def itemOp (t : Str × Str × Int) : Op := Op.set t.1 t.2.1 t.2.2

/-- what `from_csv` does with the rows that `to_csv` wrote: one `set_similarity` per listed item; `find_rebuild` and
`rebuild_any_order` speak of `run (L.map itemOp)`, which this is at `L := items s` (`C15.rows_round_trip`) -/
def rebuild (s : State) : State := run ((items s).map itemOp)

/-- the items of `s` re-inserted in any order, any number of times each -/
theorem find_rebuild {s : State} (hwf : WF s) {L : List (Str × Str × Int)} (hL : ∀ t, t ∈ L ↔ t ∈ items s) (k : Str × Str) :
    find (run (L.map itemOp)) k = find s k := by
  have hmem {a b : Str} {v : Int} : Op.set a b v ∈ L.map itemOp ↔ find s (a, b) = some v := by
    rw [← mem_items_iff hwf, ← hL, List.mem_map]
    constructor
    · rintro ⟨t, ht, e⟩
      cases e; exact ht
    · exact fun h => ⟨_, h, rfl⟩
  -- what the rebuilt container stores was listed, so `s` stores it
  have hsub {v : Int} (h : find (run (L.map itemOp)) k = some v) : find s k = some v := by
    obtain ⟨a, b, hm, _, rfl⟩ := mem_of_find_run h
    rw [hmem] at hm
    rwa [norm_of_sle (ordered_nonneg_of_find hwf hm).1]
  -- what `s` stores was listed, so the rebuilt container stores something in its place: by `hsub`, the same
  refine Option.ext fun v => ⟨hsub, fun hs => ?_⟩
  obtain ⟨ho, hv⟩ := ordered_nonneg_of_find hwf hs
  obtain ⟨w, hw⟩ := find_run_of_mem (hmem.mpr hs) hv
  rw [norm_of_sle ho] at hw
  exact hw.trans ((hsub hw).symm.trans hs)

/-- the listed items re-inserted IN ANY ORDER (a writer may sort its rows, a reader meets them in file order) give a container
with the same similarities -/
theorem rebuild_any_order (s : State) (hwf : WF s) (L : List (Str × Str × Int)) (hperm : L.Perm (items s)) (x y : Str) :
    get (run (L.map itemOp)) x y = get s x y := by
  rw [get_eq_find, get_eq_find, find_rebuild hwf fun _ => hperm.mem_iff]

end Hpv.Sim
