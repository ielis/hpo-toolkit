/-
The term map is a fold of `upsert` over the (id, term) bindings of the current terms (`mkMap_eq`). In such a fold the last
binding of a key wins (`lookup_foldl_ins_eq`); with pairwise distinct ids a lookup therefore finds exactly the binding that
was inserted (`getTerm_spec`).
-/
import Hpv.Onto
import Hpv.SimProofs
namespace Hpv.Onto
open Hpv.Sim

def ins (m : List (Str × Term)) (kv : Str × Term) : List (Str × Term) := upsert kv.1 kv.2 m

theorem addTerm_eq (m : List (Str × Term)) (t : Term) :
    addTerm m t = ((t.id :: t.alts).map (fun k => (k, t))).foldl ins m := by
  rw [List.foldl_map]; rfl

theorem mkMap_eq (ts : List Term) : mkMap ts = (bindings ts).foldl ins [] := by
  simp only [mkMap, bindings, List.foldl_flatMap, ← addTerm_eq]

theorem lookup_foldl_ins_eq (kvs : List (Str × Term)) (m : List (Str × Term)) (k : Str) :
    lookup k (kvs.foldl ins m) = (lookup k kvs.reverse).or (lookup k m) := by
  rw [List.foldl_eq_foldr_reverse]
  induction kvs.reverse with
  | nil => rfl
  | cons kv rest ih =>
    rw [List.foldr_cons, ins, lookup_upsert, lookup_cons, ih]
    split <;> rfl

theorem lookup_foldl_ins (kvs : List (Str × Term)) (m : List (Str × Term)) (k : Str)
    (hk : k ∉ kvs.map Prod.fst) : lookup k (kvs.foldl ins m) = lookup k m := by
  rw [lookup_foldl_ins_eq, (lookup_eq_none_iff k _).mpr (by rwa [List.map_reverse, List.mem_reverse])]
  rfl

theorem lookup_foldl_ins_nodup (kvs : List (Str × Term)) (m : List (Str × Term)) (k : Str) (t : Term)
    (hnd : (kvs.map Prod.fst).Nodup) (hm : ∀ k', k' ∈ kvs.map Prod.fst → lookup k' m = none) :
    lookup k (kvs.foldl ins m) = some t ↔ ((k, t) ∈ kvs ∨ (k ∉ kvs.map Prod.fst ∧ lookup k m = some t)) := by
  have _ := hm -- not needed: `lookup_foldl_ins_eq` says what the fold answers whatever `m` binds
  have hnd' : (kvs.reverse.map Prod.fst).Nodup := by rw [List.map_reverse]; exact List.pairwise_reverse.mpr (hnd.imp Ne.symm)
  rw [lookup_foldl_ins_eq, Option.or_eq_some_iff, ← mem_iff_lookup hnd', lookup_eq_none_iff, List.mem_reverse,
    List.map_reverse, List.mem_reverse]

/-- the ids of current terms are pairwise distinct (the property's "disjoint assignment of alternate ids") -/
def DisjointIds (ts : List Term) : Prop := ((bindings ts).map Prod.fst).Nodup

theorem mem_bindings (ts : List Term) (k : Str) (t : Term) :
    (k, t) ∈ bindings ts ↔ t ∈ current ts ∧ (k = t.id ∨ k ∈ t.alts) := by
  simp only [bindings, List.mem_flatMap, List.mem_map, List.mem_cons, Prod.mk.injEq]
  constructor
  · rintro ⟨t', ht', k', hk', rfl, rfl⟩
    exact ⟨ht', hk'⟩
  · rintro ⟨ht, hk⟩
    exact ⟨t, ht, k, hk, rfl, rfl⟩

theorem getTerm_spec (ts : List Term) (hd : DisjointIds ts) (k : Str) (t : Term) :
    getTerm ts k = some t ↔ t ∈ current ts ∧ (k = t.id ∨ k ∈ t.alts) := by
  rw [getTerm, mkMap_eq, lookup_foldl_ins_nodup _ _ k t hd (fun _ _ => rfl), mem_bindings]
  exact or_iff_left fun h => (Option.some_ne_none t).symm h.2

theorem mem_current (ts : List Term) (t : Term) : t ∈ current ts ↔ t ∈ ts ∧ t.obsolete = false := by
  rw [current, List.mem_filter, Bool.not_eq_true']

theorem obsolete_never_returned (ts : List Term) (hd : DisjointIds ts) (k : Str) (t : Term)
    (h : getTerm ts k = some t) : t.obsolete = false :=
  ((mem_current ts t).mp ((getTerm_spec ts hd k t).mp h).1).2

theorem termIds_nodup (ts : List Term) : (termIds ts).Nodup := by
  rw [termIds, mkMap_eq]
  exact List.foldlRecOn (motive := fun m => (m.map Prod.fst).Nodup) _ ins (b := []) List.nodup_nil
    fun _ h kv _ => nodup_upsert kv.1 kv.2 h

theorem mem_termIds (ts : List Term) (k : Str) : k ∈ termIds ts ↔ (getTerm ts k).isSome := by
  rw [Option.isSome_iff_ne_none, Ne, getTerm, lookup_eq_none_iff, Classical.not_not, termIds]

end Hpv.Onto
