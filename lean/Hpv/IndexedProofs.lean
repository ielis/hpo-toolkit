/-
`CsrIndexedGraphFactory._build_csr_data`: the CSR arrays it assembles, as a function of the edge list alone, and what
their rows mean between labels (`Adjacency`).  Both arrays are the same construction read in the two directions of an
edge, so every fact is stated once for a pair (`key`, `tgt`) of edge ends.
-/
import Hpv.TransferProofs
import Hpv.CsrProofs
import Hpv.GraphProofs

namespace Hpv.Indexed
open Hpv.Graph Hpv.Csr Hpv.GM

variable {κ : Type} [DecidableEq κ]

theorem allSome_map {α} (l : List α) (f : α → Option Nat) (g : α → Nat) (h : ∀ x, x ∈ l → f x = some (g x)) :
    allSome (l.map f) = some (l.map g) := by
  induction l with
  | nil => rfl
  | cons a rest ih =>
    rw [List.map_cons, h a List.mem_cons_self, allSome, ih fun x hx => h x (List.mem_cons_of_mem _ hx)]
    rfl

theorem allRows_map {β γ} (rows : List β) (L : β → List γ) (f : γ → Option Nat) (g : γ → Nat)
    (h : ∀ r ∈ rows, ∀ x ∈ L r, f x = some (g x)) :
    allRows (rows.map fun r => (L r).map f) = some (rows.map fun r => (L r).map g) := by
  induction rows with
  | nil => rfl
  | cons a rest ih =>
    rw [List.map_cons, allRows, allSome_map _ f g (h a List.mem_cons_self), ih fun x hx => h x (List.mem_cons_of_mem _ hx)]
    rfl

/-- unwrapped index of a label (only used for labels that are nodes) -/
def idx! (o : Graph.Ord κ) (nodes : List κ) (x : κ) : Nat := (indexOf? o nodes x).getD 0

section
variable {o : Graph.Ord κ} {nodes : List κ} {x : κ} {i : Nat}

theorem idx!_eq_iff (hs : o.Strict) (hsorted : Sorted o nodes) (hx : x ∈ nodes) :
    idx! o nodes x = i ↔ nodes[i]? = some x := by
  obtain ⟨k, hk, hidx⟩ := exists_indexOf? hs hsorted hx
  have hnd := Sorted.nodup o hs nodes hsorted
  simp only [idx!, hidx, Option.getD_some]
  exact ⟨fun e => e ▸ hk, fun hi => (List.getElem?_inj (List.getElem?_eq_some_iff.mp hk).1 hnd).mp (hk.trans hi.symm)⟩

theorem getElem?_idx! (hs : o.Strict) (hsorted : Sorted o nodes) (hx : x ∈ nodes) : nodes[idx! o nodes x]? = some x :=
  (idx!_eq_iff hs hsorted hx).mp rfl

theorem indexOf?_idx! (hs : o.Strict) (hsorted : Sorted o nodes) (hx : x ∈ nodes) :
    indexOf? o nodes x = some (idx! o nodes x) :=
  (indexOf?_spec hs hsorted).mpr (getElem?_idx! hs hsorted hx)

theorem idx!_mono (hs : o.Strict) (hsorted : Sorted o nodes) {y : κ}
    (hx : x ∈ nodes) (hy : y ∈ nodes) (hlt : o.lt x y = true) : idx! o nodes x < idx! o nodes y := by
  have hxi := getElem?_idx! hs hsorted hx
  have hyi := getElem?_idx! hs hsorted hy
  obtain ⟨hxl, hxe⟩ := List.getElem?_eq_some_iff.mp hxi
  obtain ⟨hyl, hye⟩ := List.getElem?_eq_some_iff.mp hyi
  rcases Nat.lt_trichotomy (idx! o nodes x) (idx! o nodes y) with h | h | h
  · exact h
  · rw [h, hyi] at hxi
    rw [Option.some.inj hxi, hs.irrefl] at hlt; cases hlt
  · -- y sits before x in a strictly sorted list, so y < x: contradiction
    have hp := List.pairwise_iff_getElem.mp hsorted _ _ hyl hxl h
    rw [hye, hxe] at hp
    have := hs.trans _ _ _ hlt hp
    rw [hs.irrefl] at this; cases this

end

/-- per node, the indices of the `tgt` ends of the edges whose `key` end is the node -/
def rowsBy (o : Graph.Ord κ) (nodes : List κ) (E : List (Edge κ)) (key tgt : Edge κ → κ) : List (List Nat) :=
  nodes.map fun src => (E.filter fun e => decide (key e = src)).map fun e => idx! o nodes (tgt e)

section
variable {o : Graph.Ord κ} {nodes : List κ} {E : List (Edge κ)} {key tgt : Edge κ → κ} {i : Nat} {x : κ}

theorem row_rowsBy (hi : nodes[i]? = some x) :
    (Static.ofRows (rowsBy o nodes E key tgt)).row i =
      (E.filter fun e => decide (key e = x)).map fun e => idx! o nodes (tgt e) :=
  Static.row_ofRows_getElem _ _ _ (by rw [rowsBy, List.getElem?_map, hi]; rfl)

theorem mapNodes_row (hs : o.Strict) (hsorted : Sorted o nodes) (L : List (Edge κ)) (htgt : ∀ e ∈ L, tgt e ∈ nodes) :
    mapNodes nodes (L.map fun e => idx! o nodes (tgt e)) = L.map tgt := by
  induction L with
  | nil => rfl
  | cons a t ih =>
    rw [List.map_cons, List.map_cons, mapNodes, List.filterMap_cons, getElem?_idx! hs hsorted (htgt a List.mem_cons_self)]
    exact congrArg _ (ih fun e he => htgt e (List.mem_cons_of_mem _ he))

theorem nodup_row (hs : o.Strict) (hsorted : Sorted o nodes) (htgt : ∀ e ∈ E, tgt e ∈ nodes) (hnd : E.Nodup)
    (hinj : ∀ a ∈ E, ∀ b ∈ E, key a = key b → tgt a = tgt b → a = b) (x : κ) :
    ((E.filter fun e => decide (key e = x)).map fun e => idx! o nodes (tgt e)).Nodup := by
  refine List.pairwise_map.mpr ((hnd.filter _).imp_of_mem fun {a b} ha hb hab heq => hab ?_)
  obtain ⟨ha, hka⟩ := List.mem_filter.mp ha
  obtain ⟨hb, hkb⟩ := List.mem_filter.mp hb
  have hkey : key a = key b := (of_decide_eq_true hka).trans (of_decide_eq_true hkb).symm
  have h1 := getElem?_idx! hs hsorted (htgt a ha)
  rw [heq, getElem?_idx! hs hsorted (htgt b hb)] at h1
  exact hinj a ha b hb hkey (Option.some.inj h1).symm

theorem adjacency_rowsBy (hs : o.Strict) (hsorted : Sorted o nodes) (htgt : ∀ e ∈ E, tgt e ∈ nodes)
    (rel : κ → κ → Prop) (hrel : ∀ a b, rel a b ↔ ∃ e ∈ E, key e = a ∧ tgt e = b) :
    Adjacency nodes (Static.ofRows (rowsBy o nodes E key tgt)).row rel where
  row i x hi j := by
    simp only [row_rowsBy hi, List.mem_map, List.mem_filter, decide_eq_true_eq, hrel]
    constructor
    · rintro ⟨e, ⟨he, hk⟩, rfl⟩
      exact ⟨tgt e, getElem?_idx! hs hsorted (htgt e he), e, he, hk, rfl⟩
    · rintro ⟨y, hy, e, he, hk, rfl⟩
      exact ⟨e, ⟨he, hk⟩, (idx!_eq_iff hs hsorted (htgt e he)).mpr hy⟩
  bound i j hj := by
    -- for ANY `i`, `Static.row` of `Static.ofRows rows` unfolds to a `take` of a `drop` of `rows.flatten`
    have : j ∈ (rowsBy o nodes E key tgt).flatten := List.mem_of_mem_drop (List.mem_of_mem_take hj)
    obtain ⟨_, hrow, hj⟩ := List.mem_flatten.mp this
    obtain ⟨_, _, rfl⟩ := List.mem_map.mp hrow
    obtain ⟨e, he, rfl⟩ := List.mem_map.mp hj
    exact (List.getElem?_eq_some_iff.mp (getElem?_idx! hs hsorted (htgt e (List.mem_filter.mp he).1))).1
  closed a b hab := by
    obtain ⟨e, he, _, rfl⟩ := (hrel a b).mp hab
    exact htgt e he

end

theorem rowsFrom_spec (o : Graph.Ord κ) (hs : o.Strict) (E : List (Edge κ)) (hloop : ∀ e ∈ E, e.1 ≠ e.2)
    (k : Nat) (l : List κ) (hl : (nodesOf o E).drop k = l) :
    rowsFrom o (nodesOf o E) (findAdjacent o (nodesOf o E) E) k l =
      l.map fun src =>
        ((E.filter (fun e => decide (e.2 = src))).map (fun e => indexOf? o (nodesOf o E) e.1),
         (E.filter (fun e => decide (e.1 = src))).map (fun e => indexOf? o (nodesOf o E) e.2)) := by
  induction l generalizing k with
  | nil => rfl
  | cons src rest ih =>
    rw [rowsFrom, List.map_cons, ih (k + 1) (by rw [← List.drop_drop, hl]; rfl),
      rowTargets_spec o hs E hloop k src (by rw [← Nat.add_zero k, ← List.getElem?_drop, hl]; rfl)]

/-- The two arrays built by the factory, as a function of the edge list alone. -/
theorem build_eq {o : Graph.Ord κ} (hs : o.Strict) {E : List (Edge κ)} (hloop : ∀ e ∈ E, e.1 ≠ e.2) :
    build o E = some ⟨nodesOf o E, Static.ofRows (rowsBy o (nodesOf o E) E Prod.snd Prod.fst),
      Static.ofRows (rowsBy o (nodesOf o E) E Prod.fst Prod.snd)⟩ := by
  have hsorted : Sorted o (nodesOf o E) := sorted_sortDedup o hs _
  have hrows := rowsFrom_spec o hs E hloop 0 (nodesOf o E) rfl
  simp only [build, hrows, List.map_map, Function.comp_def]
  rw [allRows_map _ _ _ _ fun src _ e he => indexOf?_idx! hs hsorted (mem_nodesOf o E e (List.mem_filter.mp he).1).1,
    allRows_map _ _ _ _ fun src _ e he => indexOf?_idx! hs hsorted (mem_nodesOf o E e (List.mem_filter.mp he).1).2]
  rfl

/-- `build_eq` with both arrays written out -/
theorem build_spec (o : Graph.Ord κ) (hs : o.Strict) (E : List (Edge κ)) (hloop : ∀ e ∈ E, e.1 ≠ e.2) :
    ∃ g, build o E = some g ∧ g.nodes = nodesOf o E ∧
      g.parents = Static.ofRows ((nodesOf o E).map (fun src =>
        (E.filter (fun e => decide (e.1 = src))).map (fun e => idx! o (nodesOf o E) e.2))) ∧
      g.children = Static.ofRows ((nodesOf o E).map (fun src =>
        (E.filter (fun e => decide (e.2 = src))).map (fun e => idx! o (nodesOf o E) e.1))) :=
  ⟨_, build_eq hs hloop, rfl, rfl, rfl⟩

section
variable {o : Graph.Ord κ} {E : List (Edge κ)} {g : IndexedGraph κ}

/-- upward: from the subject end of an edge to its object end -/
theorem adjacency_parents (hs : o.Strict) (hloop : ∀ e ∈ E, e.1 ≠ e.2) (hg : build o E = some g) :
    Adjacency g.nodes g.parents.row (fun a b => (a, b) ∈ E) := by
  cases hg.symm.trans (build_eq hs hloop)
  exact adjacency_rowsBy (key := Prod.fst) (tgt := Prod.snd) hs (sorted_sortDedup o hs _)
    (fun e he => (mem_nodesOf o E e he).2) _ fun a b => ⟨fun h => ⟨_, h, rfl, rfl⟩, by rintro ⟨⟨_, _⟩, he, rfl, rfl⟩; exact he⟩

/-- One CSR step upward is one `is_a` edge between the corresponding labels. -/
theorem mem_parents_row (o : Graph.Ord κ) (hs : o.Strict) (E : List (Edge κ)) (hloop : ∀ e ∈ E, e.1 ≠ e.2)
    (g : IndexedGraph κ) (hg : build o E = some g) (a b : Nat) (x : κ) (hx : g.nodes[a]? = some x) :
    b ∈ g.parents.row a ↔ ∃ y, g.nodes[b]? = some y ∧ (x, y) ∈ E :=
  (adjacency_parents hs hloop hg).row a x hx b

/-- Ancestors over the CSR arrays are exactly the labels reachable over one or more `is_a` edges. -/
theorem ancestors_spec (o : Graph.Ord κ) (hs : o.Strict) (E : List (Edge κ)) (hloop : ∀ e ∈ E, e.1 ≠ e.2)
    (g : IndexedGraph κ) (hg : build o E = some g) (v : κ) (hv : v ∈ g.nodes) :
    ∃ res, ancestors o g v false = some res ∧
      ∀ x, x ∈ res ↔ Relation.TransGen (fun a b => (a, b) ∈ E) v x := by
  have hadj := adjacency_parents hs hloop hg
  have hsorted : Sorted o g.nodes := by cases hg.symm.trans (build_eq hs hloop); exact sorted_sortDedup o hs _
  obtain ⟨i, hi, hidx⟩ := exists_indexOf? hs hsorted hv
  obtain ⟨idxs, htr, hmem, _⟩ := hadj.closure popStack popStack_lawful hi
  exact ⟨mapNodes g.nodes idxs,
    by simp only [ancestors, hidx, ancestorsIdx, htr, Bool.false_eq_true, if_false, List.nil_append, mapNodes],
    hmem.mem_labels fun _ => hadj.closed_transGen⟩

end
end Hpv.Indexed
