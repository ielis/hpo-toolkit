/-
What core Lean lacks: facts about lists that several regions share, and the few facts about `Relation.TransGen` that the graph region needs.
-/

namespace Hpv

variable {α : Type _} [DecidableEq α]

/-- The order-preserving de-duplication (`list(dict.fromkeys(..))`), which the graph, information-content and annotation models each
define for themselves: any function with its two equations keeps the members and has no repeats. -/
theorem dedup_spec (d : List α → List α) (h0 : d [] = []) (hc : ∀ x xs, d (x :: xs) = x :: (d xs).filter (fun z => z ≠ x))
    (l : List α) : (d l).Nodup ∧ ∀ y, y ∈ d l ↔ y ∈ l := by
  induction l with
  | nil => rw [h0]; exact ⟨.nil, fun _ => Iff.rfl⟩
  | cons a t ih =>
    rw [hc]
    refine ⟨List.nodup_cons.mpr ⟨fun h => of_decide_eq_true (List.mem_filter.mp h).2 rfl, ih.1.filter _⟩, fun y => ?_⟩
    rw [List.mem_cons, List.mem_cons, List.mem_filter, ih.2]
    by_cases h : y = a <;> simp [h]

/-- An association list with pairwise distinct keys, scanned for a key (a dict lookup, the scan of a CSR row), yields a
value exactly if it holds the pair. -/
theorem find?_fst_eq_some_iff {β} {l : List (α × β)} (h : (l.map Prod.fst).Nodup) (k : α) (v : β) :
    (l.find? fun q => q.1 = k).map Prod.snd = some v ↔ (k, v) ∈ l := by
  induction l with
  | nil => simp
  | cons q rest ih =>
    rw [List.map_cons, List.nodup_cons] at h
    rw [List.find?_cons, List.mem_cons]
    by_cases hq : q.1 = k
    · have : (k, v) ∉ rest := fun hm => h.1 (hq ▸ List.mem_map_of_mem (f := Prod.fst) hm)
      simp only [hq, decide_true, Option.map_some, Option.some.injEq, this, or_false]
      exact ⟨fun e => Prod.ext hq.symm e.symm, fun e => e ▸ rfl⟩
    · have : (k, v) ≠ q := fun e => hq (e ▸ rfl)
      simp only [hq, decide_false, ih h.2, this, false_or]

/-- Python's `any(y == a for y in l)` is membership -/
theorem any_eq_decide_mem (l : List α) (a : α) : (l.any fun x => decide (x = a)) = decide (a ∈ l) := by
  rw [← List.contains_eq_mem, ← List.any_beq']; rfl

section
open Relation
variable {κ : Type _} {r s : κ → κ → Prop} {a b : κ}

theorem transGen_mono (h : ∀ a b, r a b → s a b) (hab : TransGen r a b) : TransGen s a b := by
  induction hab with
  | single hh => exact .single (h _ _ hh)
  | tail _ hh ih => exact .tail ih (h _ _ hh)

theorem transGen_congr (h : ∀ a b, r a b ↔ s a b) : TransGen r a b ↔ TransGen s a b :=
  ⟨transGen_mono fun a b => (h a b).mp, transGen_mono fun a b => (h a b).mpr⟩

theorem transGen_swap : TransGen (fun x y => r y x) a b ↔ TransGen r b a := by
  constructor <;> intro h <;> induction h with
    | single hh => exact .single hh
    | tail _ hh ih => exact .trans (.single hh) ih

theorem transGen_first_step (hab : TransGen r a b) : ∃ c, r a c := by
  induction hab with
  | single hh => exact ⟨_, hh⟩
  | tail _ _ ih => exact ih

end

end Hpv
