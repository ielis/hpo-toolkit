/-
Each stage of the loader is characterised once (`retained_eq_some`, `keptOf_eq_some`, `mkTerm_ok`, `edgeOf_eq_some`); then
`load_eq`: on a document whose retained nodes the term factory accepts, `load` returns the kept nodes' terms in document
order, the edges between kept nodes and the version.
-/
import Hpv.Obo
import Hpv.ListFacts

namespace Hpv.Obo

/-- a node that survives `extract_terms`, with its dictionary entry and its term -/
def keptOf (L : Loader) (P : List String) (n : NodeJ) : Option ((String × (String × String)) × Term) :=
  match retained P n with
  | none => none
  | some (w, tid) =>
    match mkTerm L tid n with
    | .ok t => some ((w, tid), t)
    | .error _ => none

/-- no retained node makes the term factory raise (alternate ids / xrefs are CURIEs, definitions have text) -/
def FactoryOk (L : Loader) (P : List String) (nodes : List NodeJ) : Prop :=
  ∀ n ∈ nodes, ∀ w tid, retained P n = some (w, tid) → ∃ t, mkTerm L tid n = .ok t

theorem knownType_eq_class {t : Option String} : knownType t = some "CLASS" ↔ t = some "CLASS" := by
  fun_cases knownType t
  case case4 h _ _ => exact ⟨nofun, fun e => (h e).elim⟩
  all_goals exact Iff.rfl

theorem retained_eq_some {P : List String} {n : NodeJ} {w : String} {tid : String × String} :
    retained P n = some (w, tid) ↔
      n.type = some "CLASS" ∧ purlCurie n.id = some w ∧ termIdOf w = some tid ∧ P.contains tid.1 = true := by
  constructor
  · -- one goal per branch of `retained`; `cases h` closes the failing ones (`none = some _`), the successful one is left
    fun_cases retained P n <;> intro h <;> cases h
    next hty hw hc ht => exact ⟨knownType_eq_class.mp hty, hw, ht, hc⟩
  · rintro ⟨h1, h2, h3, h4⟩
    simp only [retained, if_pos (knownType_eq_class.mpr h1), h2, h3, h4, if_true]

theorem keptOf_eq_some {L : Loader} {P : List String} {n : NodeJ} {w : String} {tid : String × String} {t : Term} :
    keptOf L P n = some ((w, tid), t) ↔ retained P n = some (w, tid) ∧ mkTerm L tid n = .ok t := by
  constructor
  · fun_cases keptOf L P n <;> intro h <;> cases h
    next hr hm => exact ⟨hr, hm⟩
  · rintro ⟨hr, hm⟩
    simp only [keptOf, hr, hm]

theorem mkTerm_ok {L : Loader} {tid : String × String} {n : NodeJ} {t : Term} (h : mkTerm L tid n = .ok t) :
    t.id = tid ∧ t.name = n.lbl.getD "" ∧ t.obsolete = isDeprecated n.mta ∧ altIds n.mta = some t.alts ∧
    (L = .full →
      match n.mta with
      | none => t.definition = none ∧ t.comment = none ∧ t.synonyms = none ∧ t.xrefs = none
      | some mj =>
        t.definition = mj.definition.bind (fun d => d.val.map (fun v => (v, d.xrefs))) ∧
        t.comment = (if mj.comments.isEmpty then none else some (", ".intercalate mj.comments)) ∧
        t.synonyms = (if mj.synonyms.isEmpty then none else some (mj.synonyms.map parseSynonym)) ∧
        (if mj.xrefs.isEmpty then t.xrefs = none else ∃ l, mapM' xrefTid mj.xrefs = some l ∧ t.xrefs = some l)) := by
  revert h
  -- the branches of `mkTerm`: the alternate ids raise; minimal; full without `meta`; full with `meta`; the definition raises;
  -- a cross-reference raises
  fun_cases mkTerm L tid n <;> intro h
  · cases h
  · next alts ha base => rw [← Except.ok.inj h]; exact ⟨rfl, rfl, rfl, ha, nofun⟩
  · next alts ha base hm =>
    rw [← Except.ok.inj h]
    exact ⟨rfl, rfl, rfl, by rw [hm]; rfl, fun _ => by rw [hm]; exact ⟨rfl, rfl, rfl, rfl⟩⟩
  · next alts ha base mj hm defn xr d x hx hd =>
    -- both parts succeeded (`hd`, `hx`); each is looked at on its own
    rw [← Except.ok.inj h]
    refine ⟨rfl, rfl, rfl, ha, fun _ => ?_⟩
    rw [hm]
    refine ⟨?_, rfl, rfl, ?_⟩
    · show d = _
      dsimp only [defn] at hd
      split at hd
      · next hdef => cases hd; rw [hdef]; rfl
      · next dj hdef =>
        split at hd <;> cases hd
        next v hv => rw [hdef, Option.bind_some, hv]; rfl
    · show if _ then x = none else ∃ l, _ ∧ x = some l
      dsimp only [xr] at hx
      split at hx
      · next he => cases hx; rw [if_pos he]
      · next he =>
        rw [if_neg he]
        split at hx <;> cases hx
        next l hl => exact ⟨l, hl, rfl⟩
  · cases h
  · cases h

theorem edgeOf_eq_some (d : List (String × (String × String))) (ej : EdgeJ) (e : (String × String) × (String × String)) :
    edgeOf d ej = some e ↔ ej.pred = "is_a" ∧
      ∃ sc oc, purlCurie ej.sub = some sc ∧ purlCurie ej.obj = some oc ∧
               lookupLast d sc = some e.1 ∧ lookupLast d oc = some e.2 := by
  constructor
  · fun_cases edgeOf d ej <;> intro h <;> cases h
    next hp sc h1 src h2 oc h3 dst h4 => exact ⟨Decidable.not_not.mp hp, sc, oc, h1, h3, h2, h4⟩
  · rintro ⟨hp, sc, oc, h1, h3, h2, h4⟩
    -- both `purlCurie` facts go in before anything is reduced: with a `match purlCurie ..` at the head of a goal the kernel
    -- unfolds `purlCurie` (string functions) when it re-checks the reduction steps
    rw [edgeOf, h1, h3]
    simp only [hp, h2, h4, ne_eq, not_true_eq_false, if_false]

theorem lookupLast_of_nodup {d : List (String × (String × String))} (hnd : (d.map (·.1)).Nodup) (k : String)
    (v : String × String) : lookupLast d k = some v ↔ (k, v) ∈ d := by
  rw [lookupLast, find?_fst_eq_some_iff (((List.reverse_perm d).map _).nodup_iff.mpr hnd), List.mem_reverse]

theorem createEdgeList_perm {d d' : List (String × (String × String))} {edges edges' : List EdgeJ}
    (hd : d.Perm d') (hnd : (d.map (·.1)).Nodup) (he : edges.Perm edges') :
    (createEdgeList d edges).Perm (createEdgeList d' edges') := by
  have hnd' : (d'.map (·.1)).Nodup := (hd.map _).nodup_iff.mp hnd
  -- with unique keys the two dictionaries answer every lookup alike
  have hlook : lookupLast d = lookupLast d' :=
    funext fun k => Option.ext fun v => by rw [lookupLast_of_nodup hnd, lookupLast_of_nodup hnd', hd.mem_iff]
  have hedge : edgeOf d = edgeOf d' := funext fun ej => by unfold edgeOf; rw [hlook]
  rw [createEdgeList, hedge]
  exact he.filterMap _

theorem foldl_extractStep {L : Loader} {P : List String} {nodes : List NodeJ} (hok : FactoryOk L P nodes) (a : Extract) :
    nodes.foldl (extractStep L P) (.ok a) =
      .ok ⟨a.curieToTerm ++ (nodes.filterMap (keptOf L P)).map (·.1), a.terms ++ (nodes.filterMap (keptOf L P)).map (·.2)⟩ := by
  induction nodes generalizing a with
  | nil => simp
  | cons n rest ih =>
    have hok' : FactoryOk L P rest := fun m hm => hok m (List.mem_cons_of_mem _ hm)
    simp only [List.foldl_cons, extractStep, List.filterMap_cons, keptOf]
    cases hr : retained P n with
    | none => exact ih hok' a
    | some p =>
      obtain ⟨t, ht⟩ := hok n List.mem_cons_self p.1 p.2 hr
      simp only [ht, ih hok', List.map_cons, List.append_assoc, List.singleton_append]

theorem load_eq {L : Loader} {P : List String} {doc : Doc} (hok : FactoryOk L P doc.nodes) :
    load L P doc = .ok ⟨extractVersion doc.mta, (doc.nodes.filterMap (keptOf L P)).map (·.2),
      createEdgeList ((doc.nodes.filterMap (keptOf L P)).map (·.1)) doc.edges⟩ := by
  rw [load, extractTerms, foldl_extractStep hok ⟨[], []⟩]; rfl

/-- the part of a term that the minimal and the full loader share -/
def Term.core (t : Term) : (String × String) × String × List (String × String) × Bool := (t.id, t.name, t.alts, t.obsolete)

theorem min_full_term {tid : String × String} {n : NodeJ} {t1 t2 : Term}
    (h1 : mkTerm .minimal tid n = .ok t1) (h2 : mkTerm .full tid n = .ok t2) : t1.core = t2.core := by
  obtain ⟨a1, a2, a3, a4, _⟩ := mkTerm_ok h1
  obtain ⟨b1, b2, b3, b4, _⟩ := mkTerm_ok h2
  rw [Term.core, Term.core, a1, a2, a3, b1, b2, b3, Option.some.inj (a4.symm.trans b4)]

theorem kept_min_full {P : List String} {nodes : List NodeJ}
    (hmin : FactoryOk .minimal P nodes) (hfull : FactoryOk .full P nodes) :
    (nodes.filterMap (keptOf .minimal P)).map (·.1) = (nodes.filterMap (keptOf .full P)).map (·.1) ∧
    ((nodes.filterMap (keptOf .minimal P)).map (·.2)).map Term.core =
      ((nodes.filterMap (keptOf .full P)).map (·.2)).map Term.core := by
  induction nodes with
  | nil => exact ⟨Eq.refl [], Eq.refl []⟩
  | cons n rest ih =>
    have ⟨i1, i2⟩ := ih (fun m hm => hmin m (List.mem_cons_of_mem _ hm)) (fun m hm => hfull m (List.mem_cons_of_mem _ hm))
    simp only [List.filterMap_cons, keptOf]
    cases hr : retained P n with
    | none => exact ⟨i1, i2⟩
    | some p =>
      obtain ⟨t1, ht1⟩ := hmin n List.mem_cons_self p.1 p.2 hr
      obtain ⟨t2, ht2⟩ := hfull n List.mem_cons_self p.1 p.2 hr
      simp only [ht1, ht2, List.map_cons, i1, i2, min_full_term ht1 ht2, and_self]

end Hpv.Obo
