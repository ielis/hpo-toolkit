/-
`index?` finds the first occurrence, so `fromCurie` splits at the first ':' (else the first '_'). `slt` is core's `<` on lists
(`slt_iff_lt`) and `TermId.lt` is core's `<` on the two-element lists `[pfx, id]` (`lt_iff`), so its order laws are core's.
-/
import Hpv.TermId
namespace Hpv.TermId

theorem index?_none (c : Nat) (s : Str) : index? c s = none ↔ c ∉ s := by
  fun_induction index? c s with
  | case1 => simp
  | case2 xs => simp
  | case3 x xs hx ih => simp [ih, Ne.symm hx]

theorem index?_append_first {c : Nat} {p : Str} (r : Str) (h : c ∉ p) : index? c (p ++ c :: r) = some p.length := by
  induction p with
  | nil => simp [index?]
  | cons x xs ih =>
    simp only [List.mem_cons, not_or] at h
    simp [index?, Ne.symm h.1, ih h.2]

theorem index?_some {c : Nat} {s : Str} {i : Nat} (h : index? c s = some i) :
    s = s.take i ++ c :: s.drop (i + 1) ∧ c ∉ s.take i := by
  have hc : c ∈ s := Decidable.not_not.mp fun hn => by rw [(index?_none c s).mpr hn] at h; cases h
  obtain ⟨p, r, rfl, hp⟩ := List.eq_append_cons_of_mem hc
  rw [index?_append_first r hp] at h
  cases h
  rw [List.take_left, List.drop_length_add_append]
  exact ⟨rfl, hp⟩

theorem fromCurie_isSome (s : Str) : (fromCurie s).isSome ↔ colon ∈ s ∨ underscore ∈ s := by
  rw [← Decidable.not_iff_not, not_or, ← index?_none, ← index?_none]
  unfold fromCurie
  cases index? colon s <;> cases index? underscore s <;> simp

theorem fromCurie_split (s : Str) (t : TermId) (h : fromCurie s = some t) :
    t.value = s ∧ colon ∉ t.pfx ∧
    ((colon ∈ s ∧ s = t.pfx ++ colon :: t.id) ∨
     (colon ∉ s ∧ underscore ∉ t.pfx ∧ s = t.pfx ++ underscore :: t.id)) := by
  revert h
  -- one goal per branch of `fromCurie`; `cases h` closes the failing one (`none = some t`)
  fun_cases fromCurie s <;> intro h <;> cases h
  · next i h1 =>
    have ⟨e1, e2⟩ := index?_some h1
    exact ⟨rfl, e2, .inl ⟨e1 ▸ List.mem_append_right _ List.mem_cons_self, e1⟩⟩
  · next h1 i h2 =>
    have hc : colon ∉ s := (index?_none colon s).mp h1
    have ⟨e1, e2⟩ := index?_some h2
    exact ⟨rfl, fun hin => hc (List.mem_of_mem_take hin), .inr ⟨hc, e2, e1⟩⟩

theorem pfx_mk (p i : Str) (c : Nat) : (⟨p ++ c :: i, p.length⟩ : TermId).pfx = p := List.take_left

theorem id_mk (p i : Str) (c : Nat) : (⟨p ++ c :: i, p.length⟩ : TermId).id = i :=
  List.drop_length_add_append (l₁ := p) 1

theorem fromCurie_colon {p : Str} (i : Str) (hp : colon ∉ p) : fromCurie (p ++ colon :: i) = some ⟨p ++ colon :: i, p.length⟩ := by
  simp [fromCurie, index?_append_first i hp]

theorem fromCurie_underscore {p i : Str} (hp : colon ∉ p) (hpu : underscore ∉ p) (hi : colon ∉ i) :
    fromCurie (p ++ underscore :: i) = some ⟨p ++ underscore :: i, p.length⟩ := by
  have hc : index? colon (p ++ underscore :: i) = none :=
    (index?_none _ _).mpr (by simp only [List.mem_append, List.mem_cons, not_or]; exact ⟨hp, by decide, hi⟩)
  simp [fromCurie, hc, index?_append_first i hpu]

theorem fromCurie_curie (s : Str) (t : TermId) (h : fromCurie s = some t) :
    ∃ t', fromCurie t.curie = some t' ∧ t'.pfx = t.pfx ∧ t'.id = t.id ∧ t'.curie = t.curie :=
  ⟨_, fromCurie_colon t.id (fromCurie_split s t h).2.1, pfx_mk .., id_mk .., by rw [TermId.curie, pfx_mk, id_mk]; rfl⟩

theorem slt_iff_lt (a b : Str) : slt a b = true ↔ a < b := by
  induction a generalizing b with
  | nil => cases b <;> simp [slt]
  | cons x xs ih =>
    cases b with
    | nil => simp [slt]
    | cons y ys =>
      simp only [slt, List.cons_lt_cons_iff, ← ih, Bool.if_true_left, Bool.if_false_right, Bool.or_eq_true,
        Bool.and_eq_true, decide_eq_true_eq]

theorem lt_iff (a b : TermId) : a.lt b = true ↔ [a.pfx, a.id] < [b.pfx, b.id] := by
  unfold TermId.lt
  split
  · next h => simp [slt_iff_lt, List.cons_lt_cons_iff, h, List.lt_irrefl]
  · next h => simp [slt_iff_lt, List.cons_lt_cons_iff, h]

theorem lt_irrefl (a : TermId) : a.lt a = false :=
  Bool.eq_false_iff.mpr fun h => List.lt_irrefl _ ((lt_iff a a).mp h)

theorem lt_trans {a b c : TermId} (h1 : a.lt b = true) (h2 : b.lt c = true) : a.lt c = true :=
  (lt_iff a c).mpr (List.lt_trans ((lt_iff a b).mp h1) ((lt_iff b c).mp h2))

theorem beq_iff (a b : TermId) : a.beq b = true ↔ a.pfx = b.pfx ∧ a.id = b.id := decide_eq_true_iff

theorem lt_total (a b : TermId) : a.lt b = true ∨ a.beq b = true ∨ b.lt a = true := by
  rw [lt_iff, lt_iff, beq_iff]
  simpa using Std.lt_trichotomy [a.pfx, a.id] [b.pfx, b.id]

theorem hash_congr {β} (H : Str × Str → β) (a b : TermId) (h : a.beq b = true) :
    H (a.pfx, a.id) = H (b.pfx, b.id) := by
  obtain ⟨h1, h2⟩ := (beq_iff a b).mp h
  rw [h1, h2]

end Hpv.TermId
