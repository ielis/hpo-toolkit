/-
What `to_csv` / `from_csv` do around the csv layer. The metadata line: `decodeMeta` undoes `encodeMeta` because a forbidden
character occurs in the encoded string only as a separator (`meta_round_trip`). The framing: the reader's header filter takes
exactly the two comment lines off a written file and `_parse_meta` finds the metadata in the second (`file_round_trip`).
-/
import Hpv.SimProofs
namespace Hpv.Sim

theorem splitOn_of_not_mem {c : Nat} {s : Str} (h : c ∉ s) : splitOn c s = [s] := by
  induction s with
  | nil => rfl
  | cons x xs ih =>
    rw [List.mem_cons, not_or] at h
    rw [splitOn, if_neg (Ne.symm h.1), ih h.2]

theorem splitOn_append {c : Nat} {p : Str} (r : Str) (h : c ∉ p) : splitOn c (p ++ c :: r) = p :: splitOn c r := by
  induction p with
  | nil => exact if_pos rfl
  | cons x xs ih =>
    rw [List.mem_cons, not_or] at h
    rw [List.cons_append, splitOn, if_neg (Ne.symm h.1), ih h.2]

theorem splitOn_joinWith {c : Nat} {parts : List Str} (hne : parts ≠ []) (h : ∀ p ∈ parts, c ∉ p) :
    splitOn c (joinWith c parts) = parts := by
  fun_induction joinWith c parts with
  | case1 => exact absurd rfl hne
  | case2 p => exact splitOn_of_not_mem (h p List.mem_cons_self)
  | case3 p q ps ih =>
    rw [splitOn_append _ (h p List.mem_cons_self), ih (List.cons_ne_nil _ _) fun x hx => h x (List.mem_cons_of_mem _ hx)]

theorem mem_joinWith {sep c : Nat} {parts : List Str} (h : c ∈ joinWith sep parts) : c = sep ∨ ∃ p ∈ parts, c ∈ p := by
  fun_induction joinWith sep parts with
  | case1 => cases h
  | case2 p => exact Or.inr ⟨p, List.mem_cons_self, h⟩
  | case3 p q ps ih =>
    rw [List.mem_append, List.mem_cons] at h
    rcases h with h | h | h
    · exact Or.inr ⟨p, List.mem_cons_self, h⟩
    · exact Or.inl h
    · rcases ih h with h | ⟨p', hp', hc⟩
      · exact Or.inl h
      · exact Or.inr ⟨p', List.mem_cons_of_mem _ hp', hc⟩

theorem not_mem_of_clean {forb : List Nat} {s : Str} {c : Nat} (hc : forb.contains c = true) (h : hasForbidden forb s = false) :
    c ∉ s := fun hin => List.any_eq_false.mp h c hin hc

theorem decodeItem_encoded (d : Meta) {k v : Str} (hk : equals ∉ k) (hv : equals ∉ v) :
    decodeItem (.ok d) (k ++ equals :: v) = .ok (upsert k v d) := by
  unfold decodeItem
  rw [splitOn_append v hk, splitOn_of_not_mem hv]

theorem foldl_decodeItem_encoded {forb : List Nat} (heq : forb.contains equals = true) {items : List (Str × Str)} (acc : Meta)
    (hclean : ∀ kv ∈ items, hasForbidden forb kv.1 = false ∧ hasForbidden forb kv.2 = false)
    (hnd : ((acc ++ items).map Prod.fst).Nodup) :
    (items.map (fun kv => kv.1 ++ equals :: kv.2)).foldl decodeItem (.ok acc) = .ok (acc ++ items) := by
  induction items generalizing acc with
  | nil => rw [List.append_nil]; rfl
  | cons kv rest ih =>
    obtain ⟨hk, hv⟩ := hclean kv List.mem_cons_self
    have hnew : kv.1 ∉ acc.map Prod.fst := fun h =>
      (List.nodup_append.mp (List.map_append ▸ hnd)).2.2 _ h _ List.mem_cons_self rfl
    rw [List.append_cons] at hnd ⊢
    rw [List.map_cons, List.foldl_cons, decodeItem_encoded _ (not_mem_of_clean heq hk) (not_mem_of_clean heq hv),
      upsert_of_not_mem _ hnew, ih _ (fun x hx => hclean x (List.mem_cons_of_mem _ hx)) hnd]

/-- metadata whose keys and values avoid the forbidden characters, with distinct keys, and not empty
(`to_csv` always adds the `created` stamp) -/
structure MetaOk (forb : List Nat) (m : Meta) : Prop where
  clean : ∀ kv ∈ m, hasForbidden forb kv.1 = false ∧ hasForbidden forb kv.2 = false
  keys : (m.map Prod.fst).Nodup
  nonempty : m ≠ []

theorem eq_equals_of_mem_entry {forb : List Nat} {kv : Str × Str} (h : hasForbidden forb kv.1 = false ∧ hasForbidden forb kv.2 = false)
    {c : Nat} (hc : forb.contains c = true) (hin : c ∈ kv.1 ++ equals :: kv.2) : c = equals := by
  rcases List.mem_append.mp hin with hin | hin
  · exact absurd hin (not_mem_of_clean hc h.1)
  · exact (List.mem_cons.mp hin).resolve_right (not_mem_of_clean hc h.2)

theorem meta_round_trip (forb : List Nat) (htab : TableOk forb = true) (m : Meta) (hm : MetaOk forb m) :
    ∃ s, encodeMeta forb m = .ok s ∧ decodeMeta s = .ok m ∧ (10 : Nat) ∉ s ∧ (13 : Nat) ∉ s := by
  simp only [TableOk, Bool.and_eq_true] at htab
  obtain ⟨⟨⟨hsemi, heq⟩, (hlf : forb.contains lf = true)⟩, (hcr : forb.contains cr = true)⟩ := htab
  -- a forbidden character occurs in the encoded string only as a separator
  have hsep (c : Nat) (hc : forb.contains c = true)
      (hin : c ∈ joinWith semicolon (m.map fun kv => kv.1 ++ equals :: kv.2)) : c = semicolon ∨ c = equals := by
    rcases mem_joinWith hin with h | ⟨p, hp, hcp⟩
    · exact Or.inl h
    · obtain ⟨kv, hkv, rfl⟩ := List.mem_map.mp hp
      exact Or.inr (eq_equals_of_mem_entry (hm.clean kv hkv) hc hcp)
  refine ⟨_, if_neg ?_, ?_, fun h => ?_, fun h => ?_⟩
  · rw [Bool.not_eq_true, List.any_eq_false]
    intro kv hkv
    rw [(hm.clean kv hkv).1, (hm.clean kv hkv).2]
    decide
  · rw [decodeMeta, splitOn_joinWith (by simpa using hm.nonempty)]
    · exact foldl_decodeItem_encoded heq [] hm.clean hm.keys
    · intro p hp hin
      obtain ⟨kv, hkv, rfl⟩ := List.mem_map.mp hp
      exact absurd (eq_equals_of_mem_entry (hm.clean kv hkv) hsemi hin) (by decide)
  · exact absurd (hsep lf hlf h) (by decide)
  · exact absurd (hsep cr hcr h) (by decide)

theorem meta_rejected (forb : List Nat) (m : Meta) (kv : Str × Str) (hkv : kv ∈ m)
    (h : hasForbidden forb kv.1 = true ∨ hasForbidden forb kv.2 = true) : encodeMeta forb m = .error .valueError :=
  if_pos (List.any_eq_true.mpr ⟨kv, hkv, Bool.or_eq_true_iff.mpr h⟩)

theorem unframeAux_false (ls : List Str) : unframeAux false ls = ([], ls) := by
  induction ls with
  | nil => rfl
  | cons l ls ih => rw [unframeAux, ih]

theorem not_comment_of_flatten {body : List Str} (h : body.flatten.head? ≠ some hash) :
    body = [] ∨ ∃ l rest, body = l :: rest ∧ isComment l = false := by
  cases body with
  | nil => exact .inl rfl
  | cons l rest =>
    refine .inr ⟨l, rest, rfl, ?_⟩
    cases l with
    | nil => rfl
    | cons x xs => exact beq_false_of_ne fun e => h (congrArg some e)

/-- the two comment lines are the header; once a line that is not a comment has been seen, everything is handed to the csv
reader, `#` or not -/
theorem unframe_frame (title metaLine : Str) {body : List Str}
    (hbody : body = [] ∨ ∃ h rest, body = h :: rest ∧ isComment h = false) :
    unframe (frame title metaLine body) = ([hash :: title ++ [lf], hash :: metaLine ++ [lf]], body) := by
  have hc (t : Str) : isComment (hash :: t ++ [lf]) = true := rfl
  rw [frame, unframe, unframeAux, if_pos (hc _), unframeAux, if_pos (hc _)]
  rcases hbody with rfl | ⟨h, rest, rfl, hh⟩
  · rfl
  · rw [unframeAux, hh, unframeAux_false]; rfl

theorem rstripNl_line {s : Str} (hlf : lf ∉ s) (hcr : cr ∉ s) : rstripNl (s ++ [lf]) = s := by
  have hs : s.reverse.dropWhile (fun c => c == lf || c == cr) = s.reverse := by
    cases hr : s.reverse with
    | nil => rfl
    | cons a t =>
      have ha : a ∈ s := List.mem_reverse.mp (hr ▸ List.mem_cons_self)
      refine List.dropWhile_cons_of_neg ?_
      rw [Bool.or_eq_true, beq_iff_eq, beq_iff_eq]
      exact fun h => h.elim (fun e => hlf (e ▸ ha)) (fun e => hcr (e ▸ ha))
  rw [rstripNl, List.reverse_append, List.reverse_singleton, List.singleton_append, List.dropWhile_cons_of_pos (by decide),
    hs, List.reverse_reverse]

theorem file_round_trip (forb : List Nat) (htab : TableOk forb = true) (m : Meta) (hm : MetaOk forb m) (title : Str)
    (body : List Str) (hbody : body = [] ∨ ∃ h rest, body = h :: rest ∧ isComment h = false) :
    ∃ s, encodeMeta forb m = .ok s ∧ (unframe (frame title s body)).2 = body ∧
      parseMeta (unframe (frame title s body)).1 = .ok m := by
  -- `lf` is 10 and `cr` is 13
  obtain ⟨s, henc, hdec, (hlf : lf ∉ s), (hcr : cr ∉ s)⟩ := meta_round_trip forb htab m hm
  refine ⟨s, henc, ?_, ?_⟩ <;> rw [unframe_frame title s hbody]
  rw [parseMeta, if_neg (by simp), List.cons_append, List.drop_one, List.tail_cons, rstripNl_line hlf hcr, hdec]

end Hpv.Sim
