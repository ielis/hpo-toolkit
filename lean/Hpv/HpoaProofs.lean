/-
The aggregation layer of Hpv/Hpoa.lean: what `mapExcept`, `checkRatio`, `mkAnn`, `mkDisease` return and when (through the
relation `AllOk`), `sumRatios` as component-wise sums, and that every well-formed frequency cell parses to a proper ratio.
-/
import Hpv.Hpoa
import Hpv.ListFacts

namespace Hpv.Hpoa

theorem mem_dedupS (l : List String) (x : String) : x ∈ dedupS l ↔ x ∈ l :=
  (dedup_spec dedupS rfl (fun _ _ => rfl) l).2 x

theorem nodup_dedupS (l : List String) : (dedupS l).Nodup := (dedup_spec dedupS rfl (fun _ _ => rfl) l).1

theorem dedupS_perm {l l' : List String} (h : ∀ x, x ∈ l ↔ x ∈ l') : (dedupS l).Perm (dedupS l') :=
  (List.perm_ext_iff_of_nodup (nodup_dedupS l) (nodup_dedupS l')).mpr (fun x => by rw [mem_dedupS, mem_dedupS, h])

/-- element-wise "the function succeeded with this result" -/
inductive AllOk {α β} (f : α → Except Err β) : List α → List β → Prop
  | nil : AllOk f [] []
  | cons {x y xs ys} : f x = .ok y → AllOk f xs ys → AllOk f (x :: xs) (y :: ys)

theorem mapExcept_eq_ok {α β} {f : α → Except Err β} {l : List α} {ys : List β} :
    mapExcept f l = .ok ys ↔ AllOk f l ys := by
  constructor
  · intro h
    fun_induction mapExcept f l generalizing ys <;> cases h
    · exact .nil
    · next hxs hx ih => exact .cons hx (ih hxs)
  · intro h
    induction h with
    | nil => rfl
    | cons hx _ ih => simp only [mapExcept, hx, ih]

theorem allOk_mem {α β} (f : α → Except Err β) (l : List α) (ys : List β) (h : AllOk f l ys) :
    ∀ y ∈ ys, ∃ x ∈ l, f x = .ok y := by
  induction h with
  | nil => intro y hy; cases hy
  | cons hx _ ih =>
    rw [List.forall_mem_cons]
    exact ⟨⟨_, List.mem_cons_self, hx⟩, fun y hy => (ih y hy).imp fun x h => ⟨List.mem_cons_of_mem _ h.1, h.2⟩⟩

theorem allOk_length {α β} (f : α → Except Err β) (l : List α) (ys : List β) (h : AllOk f l ys) : ys.length = l.length := by
  induction h with
  | nil => rfl
  | cons _ _ ih => rw [List.length_cons, ih, List.length_cons]

/-- when a result carries its argument (`key`), the results list the arguments in order and each is the result of its
own key -/
theorem AllOk.keyed {α β} {f : α → Except Err β} {key : β → α} (hk : ∀ x y, f x = .ok y → key y = x)
    {l : List α} {ys : List β} (h : AllOk f l ys) : ys.map key = l ∧ ∀ y ∈ ys, f (key y) = .ok y := by
  refine ⟨?_, fun y hy => ?_⟩
  · induction h with
    | nil => rfl
    | cons hx _ ih => rw [List.map_cons, hk _ _ hx, ih]
  · obtain ⟨x, _, hx⟩ := allOk_mem f l ys h y hy
    rw [hk x y hx]; exact hx

theorem AllOk.of_forall {α β} {f : α → Except Err β} {P : β → Prop} {l : List α}
    (h : ∀ x ∈ l, ∃ y, f x = .ok y ∧ P y) : ∃ ys, AllOk f l ys ∧ ∀ y ∈ ys, P y := by
  induction l with
  | nil => exact ⟨[], .nil, fun _ hy => by cases hy⟩
  | cons x xs ih =>
    obtain ⟨⟨y, hy, hP⟩, hxs⟩ := List.forall_mem_cons.mp h
    obtain ⟨ys, hys, hPs⟩ := ih hxs
    exact ⟨y :: ys, .cons hy hys, List.forall_mem_cons.mpr ⟨hP, hPs⟩⟩

theorem AllOk.perm {α β} {f : α → Except Err β} {l l' : List α} {ys : List β} (h : AllOk f l ys) (hp : l.Perm l') :
    ∃ ys', AllOk f l' ys' ∧ ys.Perm ys' := by
  induction hp generalizing ys with
  | nil => exact ⟨ys, h, .refl _⟩
  | cons x _ ih =>
    cases h with | cons hx h =>
    obtain ⟨ys', h1, h2⟩ := ih h
    exact ⟨_, .cons hx h1, h2.cons _⟩
  | swap x y l =>
    cases h with | cons hy h =>
    cases h with | cons hx h =>
    exact ⟨_, .cons hx (.cons hy h), .swap ..⟩
  | trans _ _ ih1 ih2 =>
    obtain ⟨ys1, h1, p1⟩ := ih1 h
    obtain ⟨ys2, h2, p2⟩ := ih2 h1
    exact ⟨ys2, h2, p1.trans p2⟩

theorem foldl_ratio (rs : List (Int × Int)) (a : Int × Int) :
    rs.foldl (fun a r => (a.1 + r.1, a.2 + r.2)) a = (a.1 + (rs.map (·.1)).sum, a.2 + (rs.map (·.2)).sum) := by
  induction rs generalizing a with
  | nil => simp only [List.foldl_nil, List.map_nil, List.sum_nil, Int.add_zero]
  | cons r rest ih =>
    rw [List.foldl_cons, ih, List.map_cons, List.map_cons, List.sum_cons, List.sum_cons, Int.add_assoc, Int.add_assoc]

theorem sumRatios_eq (rs : List (Int × Int)) : sumRatios rs = ((rs.map (·.1)).sum, (rs.map (·.2)).sum) := by
  rw [sumRatios, foldl_ratio, Int.zero_add, Int.zero_add]

theorem sumRatios_perm {rs rs' : List (Int × Int)} (h : rs.Perm rs') : sumRatios rs = sumRatios rs' :=
  h.foldl_eq' (fun _ _ _ _ _ => Prod.ext (Int.add_right_comm ..) (Int.add_right_comm ..)) _

abbrev ProperRatio (r : Int × Int) : Prop := 0 ≤ r.1 ∧ r.1 ≤ r.2 ∧ 0 < r.2

theorem sumRatios_proper {rs : List (Int × Int)} (h : ∀ r ∈ rs, ProperRatio r) :
    0 ≤ (sumRatios rs).1 ∧ (sumRatios rs).1 ≤ (sumRatios rs).2 ∧ (rs ≠ [] → 0 < (sumRatios rs).2) := by
  rw [sumRatios_eq]
  induction rs with
  | nil => exact ⟨Int.le_refl _, Int.le_refl _, fun h => absurd rfl h⟩
  | cons r rest ih =>
    obtain ⟨⟨h0, h1, h2⟩, hrest⟩ := List.forall_mem_cons.mp h
    obtain ⟨i0, i1, _⟩ := ih hrest
    -- the tail may be empty: its denominator is only known to be ≥ 0; the head's is positive
    exact ⟨Int.add_nonneg h0 i0, Int.add_le_add h1 i1, fun _ => Int.add_pos_of_pos_of_nonneg h2 (Int.le_trans i0 i1)⟩

theorem checkRatio_eq_ok {r r' : Int × Int} : checkRatio r = .ok r' ↔ r' = r ∧ 0 ≤ r.1 ∧ 0 < r.2 := by
  fun_cases checkRatio r
  · next h1 => exact ⟨nofun, fun h => absurd h1 (Int.not_lt.mpr h.2.1)⟩
  · next h2 => exact ⟨nofun, fun h => absurd h2 (Int.not_le.mpr h.2.2)⟩
  · next h1 h2 =>
    exact ⟨fun h => by cases h; exact ⟨rfl, Int.not_lt.mp h1, Int.not_le.mp h2⟩, fun h => by rw [h.1]⟩

theorem group_perm {α} (key : α → String) {l l' : List α} (h : l.Perm l') (k : String) :
    (group key l k).Perm (group key l' k) := h.filter _

theorem keys_perm {α} (key : α → String) {l l' : List α} (h : l.Perm l') : (keys key l).Perm (keys key l') :=
  dedupS_perm (fun _ => (h.map key).mem_iff)

theorem keys_spec {α} (key : α → String) (l : List α) :
    (keys key l).Nodup ∧ ∀ k, k ∈ keys key l ↔ ∃ x ∈ l, key x = k :=
  ⟨nodup_dedupS _, fun k => by rw [keys, mem_dedupS, List.mem_map]⟩

theorem mkAnn_eq_ok {cfg : Config} {freqOf : String → Freq} {lines : List Line} {pheno : String} {a : Ann} :
    mkAnn cfg freqOf lines pheno = .ok a ↔
    ∃ rs, AllOk (fun l => lineRatio cfg l.neg (freqOf l.freq)) (group (·.pheno) lines pheno) rs ∧
      0 ≤ (sumRatios rs).1 ∧ 0 < (sumRatios rs).2 ∧
      a = ⟨pheno, (sumRatios rs).1, (sumRatios rs).2, dedupS ((group (·.pheno) lines pheno).flatMap (·.refs)),
        dedupS ((group (·.pheno) lines pheno).flatMap (·.mods))⟩ := by
  constructor
  · fun_cases mkAnn cfg freqOf lines pheno <;> intro h <;> cases h
    next rs hm r hc =>
    obtain ⟨rfl, h1, h2⟩ := checkRatio_eq_ok.mp hc
    exact ⟨rs, mapExcept_eq_ok.mp hm, h1, h2, rfl⟩
  · rintro ⟨rs, hm, h1, h2, rfl⟩
    simp only [mkAnn, mapExcept_eq_ok.mpr hm, checkRatio_eq_ok.mpr ⟨rfl, h1, h2⟩]

theorem mkDisease_ok {cfg : Config} {freqOf : String → Freq} {lines : List Line} {did : String} {d : Disease}
    (h : mkDisease cfg freqOf lines did = .ok d) :
    d.id = did ∧ d.name = ((group (·.disease) lines did).head?.map (·.name)).getD "" ∧
    AllOk (mkAnn cfg freqOf ((group (·.disease) lines did).filter (fun l => l.aspect = some .P)))
      (keys (·.pheno) ((group (·.disease) lines did).filter (fun l => l.aspect = some .P))) d.anns ∧
    d.moi = dedupS (((group (·.disease) lines did).filter (fun l => l.aspect = some .I)).map (·.pheno)) := by
  revert h
  fun_cases mkDisease cfg freqOf lines did <;> intro h <;> cases h
  next hm => exact ⟨rfl, rfl, mapExcept_eq_ok.mp hm, rfl⟩

/-- a well-formed frequency cell (the property's "well-formed HPOA file") -/
def WfFreq (cfg : Config) (neg : Bool) : Freq → Prop
  | .empty => True
  | .term id => ∃ r, cfg.table.find? (fun r => r.id = id) = some r ∧ 0 < r.denom ∧ r.freq ≤ r.denom
  | .ratio i m => if neg then (0 < m ∧ i ≤ m) ∨ (m = 0 ∧ i = 0) else 0 < m ∧ i ≤ m
  | .percent pn pd => 0 < pd ∧ pn ≤ 100 * pd
  | .bad => False

theorem natCast_proper {n d : Nat} (h : n ≤ d) (hd : 0 < d) : ProperRatio (n, d) :=
  ⟨Int.natCast_nonneg n, Int.ofNat_le.mpr h, Int.natCast_pos.mpr hd⟩

/-- negation (or salvaging) replaces a count by 0 -/
theorem zeroed_proper {b : Prop} [Decidable b] {x d : Int} (h : ProperRatio (x, d)) :
    ProperRatio (if b then 0 else x, d) := by
  split
  · exact ⟨Int.le_refl 0, Int.le_of_lt h.2.2, h.2.2⟩
  · exact h

theorem lineRatio_proper {cfg : Config} (hc : 0 < cfg.cohort) {neg : Bool} {f : Freq} (h : WfFreq cfg neg f) :
    ∃ r, lineRatio cfg neg f = .ok r ∧ ProperRatio r := by
  cases f with
  | empty => exact ⟨_, rfl, zeroed_proper (x := 1) (d := 1) (by decide)⟩
  | term id =>
    obtain ⟨r, hr, hd, hf⟩ := h
    refine ⟨_, by rw [lineRatio, hr], ?_⟩
    exact zeroed_proper (natCast_proper (roundHalfEven_le hd (Nat.mul_le_mul_right cfg.cohort hf)) hc)
  | ratio i m =>
    cases neg with
    | false =>
      have : 0 < m ∧ i ≤ m := h
      exact ⟨_, rfl, natCast_proper this.2 this.1⟩
    | true =>
      refine ⟨_, rfl, ?_⟩
      -- the denominator after the repair of `0/0`
      have hd : 0 < (if m = 0 then cfg.cohort else m) ∧ i ≤ (if m = 0 then cfg.cohort else m) := by
        rcases (h : (0 < m ∧ i ≤ m) ∨ (m = 0 ∧ i = 0)) with ⟨hm, hi⟩ | ⟨rfl, rfl⟩
        · rw [if_neg (Nat.ne_of_gt hm)]; exact ⟨hm, hi⟩
        · exact ⟨hc, Nat.zero_le _⟩
      generalize (if m = 0 then cfg.cohort else m) = d at hd ⊢
      -- `↑(d - i) = ↑d - ↑i` since `i ≤ d`
      exact zeroed_proper (Int.ofNat_sub hd.2 ▸ natCast_proper (Nat.sub_le d i) hd.1)
  | percent pn pd =>
    obtain ⟨hpd, hp⟩ := h
    exact ⟨_, rfl, natCast_proper (roundHalfEven_le (Nat.mul_pos hpd (by decide : 0 < 100))
      (Nat.mul_le_mul_right _ (Nat.mul_comm 100 pd ▸ hp))) hc⟩
  | bad => cases h

end Hpv.Hpoa
