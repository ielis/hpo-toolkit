import Hpv.Store

/-
What a loader step can do is a relation: an exact step of a successful load (`OkStep`) or a deviation (`ThreadStep`).
The invariants and recovery argue about the relation, not about `stepLoader`.
-/
namespace Hpv.Store

/-- The per-thread part of `Inv`: what thread `t` has in hand when it is at `pc`. `Inv.cache` alone is not kept by
`os.replace`: the step that puts a file at a cache location has to know that the temp file it moves (`written k`) is a
complete copy; that comes from the bytes read (`haveBytes`), which come from the response (`fetched`). `loaded` is what
`C07.loaded_is_remote` asks for. -/
def LocalOk (w : World) (t : Nat) : PC → Prop
  | .fetched k b => w.remote k = some b
  | .haveBytes k b => w.remote k = some b
  | .written k => ∀ c, w.files (.tmp k.ty t) = some c → w.remote k = some c
  | .loaded k c => w.remote k = some c
  | _ => True

/-- **The invariant**: every file at a cache location holds exactly the bytes the remote serves for that key (`cache`);
`loc` is what makes that inductive. -/
structure Inv (w : World) : Prop where
  cache : ∀ k c, w.files (.cache k) = some c → w.remote k = some c
  loc : ∀ t, LocalOk w t (w.pcs t)

theorem upd_same {α β} [DecidableEq α] (f : α → β) (a : α) (b : β) : upd f a b a = b := if_pos rfl

theorem upd_other {α β} [DecidableEq α] {f : α → β} {a x : α} {b : β} (h : x ≠ a) : upd f a b x = f x := if_neg h

theorem upd_upd {α β} [DecidableEq α] (f : α → β) (a : α) (b c : β) : upd (upd f a b) a c = upd f a c := by
  funext x; unfold upd; split <;> rfl

theorem maxTag_eq_max? (l : List Nat) : maxTag l = l.max? := by cases l <;> rfl

section
variable (F : Path → Option Bytes) (D : Ty → Bool) (R : Key → Option Bytes) (T : Ty → List Nat) (P : Nat → PC)
  (L : List Ev) (t : Nat)

/-- A fault-free step of thread `t`, at `pc` in the world `⟨F, D, R, T, P, L⟩`, that finds what it needs: the steps of a
successful load. Exact (`OkStep.eq`). The world comes as its six components because the side hypotheses speak of `F`, `D`,
`R`: with one `w : World`, `rw [OkStep.eq_goto (.fetch _ _ hrem)]` in `recovery` would take `w` from `hrem`, the world
the load started in, and not the world the previous step produced. -/
inductive OkStep : PC → World → Prop
  | start (ty : Ty) (r : Nat) : OkStep (.start ty (some r)) (World.goto ⟨F, D, R, T, P, L⟩ t (.resolved ⟨ty, r⟩))
  | latest (ty : Ty) (r : Nat) : maxTag (T ty) = some r →
      OkStep (.start ty none) (World.goto ⟨F, D, R, T, P, L⟩ t (.resolved ⟨ty, r⟩))
  | found (k : Key) (c : Bytes) : F (.cache k) = some c →
      OkStep (.resolved k) (World.goto ⟨F, D, R, T, P, L ++ [.isfile t k true]⟩ t (.hit k))
  | missing (k : Key) : F (.cache k) = none →
      OkStep (.resolved k) (World.goto ⟨F, D, R, T, P, L ++ [.isfile t k false]⟩ t (.checked k))
  | mkdir (k : Key) : OkStep (.checked k) (World.goto ⟨F, upd D k.ty true, R, T, P, L⟩ t (.dirMade k))
  | mkstemp (k : Key) : D k.ty = true →
      OkStep (.dirMade k) (World.goto ⟨upd F (.tmp k.ty t) (some []), D, R, T, P, L⟩ t (.tmpMade k))
  | fetch (k : Key) (b : Bytes) : R k = some b →
      OkStep (.tmpMade k) (World.goto ⟨F, D, R, T, P, L ++ [.fetch t k]⟩ t (.fetched k b))
  | read (k : Key) (b : Bytes) : OkStep (.fetched k b) (World.goto ⟨F, D, R, T, P, L⟩ t (.haveBytes k b))
  | write (k : Key) (b c : Bytes) : F (.tmp k.ty t) = some c →
      OkStep (.haveBytes k b) (World.goto ⟨upd F (.tmp k.ty t) (some b), D, R, T, P, L⟩ t (.written k))
  | rename (k : Key) (c : Bytes) : F (.tmp k.ty t) = some c →
      OkStep (.written k)
        (World.goto ⟨upd (upd F (.cache k) (some c)) (.tmp k.ty t) none, D, R, T, P, L ++ [.stored t k]⟩ t (.hit k))
  | load (k : Key) (c : Bytes) : F (.cache k) = some c → OkStep (.hit k) (World.goto ⟨F, D, R, T, P, L⟩ t (.loaded k c))

variable {F D R T P L t}

theorem OkStep.eq {pc : PC} {w' : World} (hpc : P t = pc) (h : OkStep F D R T P L t pc w') :
    stepLoader ⟨F, D, R, T, P, L⟩ t .ok = w' := by
  cases h <;> simp only [stepLoader, Option.isSome_some, Option.isSome_none, if_true, Bool.false_eq_true, if_false, *]

/-- the same for a thread that has just moved to `pc`: the form in which one step's result is the next step's start -/
theorem OkStep.eq_goto {pc : PC} {w' : World} (h : OkStep F D R T (upd P t pc) L t pc w') :
    stepLoader (World.goto ⟨F, D, R, T, P, L⟩ t pc) t .ok = w' := h.eq (upd_same ..)

end

/-- What one action of thread `t` - a loader step under whatever fault choice, or a spawn - can do to the world: a step
of a successful load from where the thread is, or a deviation. The deviations are an over-approximation: a kill, an
error, the way into clean-up and a (re)start are allowed anywhere. -/
inductive ThreadStep (w : World) (t : Nat) : World → Prop
  | ok {pc : PC} {w' : World} : w.pcs t = pc → OkStep w.files w.dirs w.remote w.tags w.pcs w.log t pc w' → ThreadStep w t w'
  | stay : ThreadStep w t w
  | dead : ThreadStep w t (w.goto t .dead)
  | failed : ThreadStep w t (w.goto t .failed)
  | cleanup (k : Key) : ThreadStep w t (w.goto t (.cleanup k))
  | start (ty : Ty) (rel : Option Nat) : ThreadStep w t (w.goto t (.start ty rel))
  | fetchFail (k : Key) : w.pcs t = .tmpMade k →
      ThreadStep w t ({ w with log := w.log ++ [Ev.fetch t k] }.goto t (.cleanup k))
  | writeGone (k : Key) : w.files (.tmp k.ty t) = none → ThreadStep w t (w.goto t (.written k))
  | tornWrite (k : Key) (b : Bytes) :
      ThreadStep w t ({ w with files := upd w.files (.tmp k.ty t) (some b) }.goto t (.cleanup k))
  | remove (k : Key) : ThreadStep w t ({ w with files := upd w.files (.tmp k.ty t) none }.goto t .failed)

/-- the bullets follow the branches of `stepLoader` in order -/
theorem stepLoader_sound (w : World) (t : Nat) (c : Choice) : ThreadStep w t (stepLoader w t c) := by
  unfold stepLoader
  dsimp only
  split
  · split
    · exact .stay
    · exact .dead
  · split
    · exact .stay
    · next h =>                                   -- start ty none
      split
      · split
        · next hr => exact .ok h (.latest _ _ hr)
        · exact .failed
      · exact .failed
    · next h => exact .ok h (.start _ _)          -- start ty (some r)
    · next k h =>                                 -- resolved
      cases hc : w.files (.cache k) with
      | some c => exact .ok h (.found _ _ hc)
      | none => exact .ok h (.missing _ hc)
    · next h => exact .ok h (.mkdir _)            -- checked
    · next h =>                                   -- dirMade
      split
      · next hd => exact .ok h (.mkstemp _ hd)
      · exact .failed
    · next h =>                                   -- tmpMade
      split
      · split
        · next hb => exact .ok h (.fetch _ _ hb)
        · exact .fetchFail _ h
      · exact .fetchFail _ h
    · next h =>                                   -- fetched
      split
      · exact .ok h (.read _ _)
      · exact .cleanup _
    · next k _ h =>                               -- haveBytes
      split
      · cases hc : w.files (.tmp k.ty t) with
        | some c => exact .ok h (.write _ _ _ hc)
        | none => exact .writeGone _ hc
      · split
        · exact .tornWrite _ _
        · exact .cleanup _
      · exact .cleanup _
    · next h =>                                   -- written
      split
      · next hc => exact .ok h (.rename _ _ hc)
      · exact .cleanup _
    · next h =>                                   -- hit
      split
      · next hc => exact .ok h (.load _ _ hc)
      · exact .failed
    · exact .remove _                             -- cleanup
    · exact .stay
    · exact .stay
    · exact .stay

theorem spawn_sound (w : World) (t : Nat) (ty : Ty) (rel : Option Nat) : ThreadStep w t (step w (.spawn t ty rel)) := by
  simp only [step]
  split
  · exact .start ty rel
  · exact .start ty rel
  · exact .start ty rel
  · exact .stay

theorem ThreadStep.remote {w w' : World} {t : Nat} (h : ThreadStep w t w') : w'.remote = w.remote := by
  cases h with
  | ok _ h => cases h <;> rfl
  | _ => rfl

/-! The frame lemmas speak of `World.goto ⟨F, D, w.remote, w.tags, w.pcs, L⟩ t pc`: thread `t` moves to `pc` in a world
with any files, directories and log; `w.goto t pc` and every `{ w with .. }.goto t pc` of `ThreadStep` have this form. -/

theorem LocalOk.of_tmp_subset {w : World} {t : Nat} {pc : PC} (h : LocalOk w t pc) {F : Path → Option Bytes} {D : Ty → Bool}
    {T : Ty → List Nat} {P : Nat → PC} {L : List Ev}
    (htmp : ∀ ty c, F (.tmp ty t) = some c → w.files (.tmp ty t) = some c) : LocalOk ⟨F, D, w.remote, T, P, L⟩ t pc := by
  cases pc with
  | written k => exact fun c hc => h c (htmp _ c hc)
  | _ => exact h

/-- `hF`: every path other than `t`'s temp files is unchanged, or is a cache location that now holds the remote's bytes -/
theorem Inv.goto {w : World} (hinv : Inv w) {t : Nat} {pc : PC} {F : Path → Option Bytes} {D : Ty → Bool} {L : List Ev}
    (hF : ∀ p, (∀ ty, p ≠ .tmp ty t) → F p = w.files p ∨ ∃ k c, p = .cache k ∧ F p = some c ∧ w.remote k = some c)
    (hloc : LocalOk ⟨F, D, w.remote, w.tags, w.pcs, L⟩ t pc) :
    Inv (World.goto ⟨F, D, w.remote, w.tags, w.pcs, L⟩ t pc) := by
  refine ⟨fun k c h => ?_, fun t' => ?_⟩
  · rcases hF (.cache k) nofun with e | ⟨_, _, ⟨⟩, hc', hr⟩
    · exact hinv.cache k c (e.symm.trans h)
    · exact Option.some.inj (hc'.symm.trans h) ▸ hr
  · show LocalOk _ t' (upd w.pcs t pc t')
    by_cases h : t' = t
    · subst h; rw [upd_same]; exact hloc
    · rw [upd_other h]
      refine (hinv.loc t').of_tmp_subset fun ty c hc => ?_
      rcases hF (.tmp ty t') (fun _ e => h (Path.tmp.inj e).2) with e | ⟨_, _, ⟨⟩, _⟩
      exact e.symm.trans hc

theorem Inv.move {w : World} (hinv : Inv w) {t : Nat} {pc : PC} {D : Ty → Bool} {L : List Ev} (hloc : LocalOk w t pc) :
    Inv (World.goto ⟨w.files, D, w.remote, w.tags, w.pcs, L⟩ t pc) :=
  hinv.goto (fun _ _ => .inl rfl) hloc

theorem inv_threadStep {w w' : World} {t : Nat} (hinv : Inv w) (h : ThreadStep w t w') : Inv w' := by
  cases h with
  | stay => exact hinv
  | dead | failed | cleanup | start | fetchFail => exact hinv.move trivial
  | tornWrite | remove => exact hinv.goto (fun _ hp => .inl (upd_other (hp _))) trivial
  | writeGone k hn => exact hinv.move fun c hc => nomatch hn.symm.trans hc
  | ok hpc h =>
    have hl := hpc ▸ hinv.loc t
    cases h with
    | start | latest | found | missing | mkdir => exact hinv.move trivial
    | mkstemp => exact hinv.goto (fun _ hp => .inl (upd_other (hp _))) trivial
    | fetch k b hb => exact hinv.move hb
    | read => exact hinv.move hl
    | write k b =>
      exact hinv.goto (fun _ hp => .inl (upd_other (hp _))) fun c hc =>
        Option.some.inj ((upd_same ..).symm.trans hc) ▸ hl
    | load k c hc => exact hinv.move (hinv.cache k c hc)
    | rename k c hc =>
      -- the one step that puts a file at a cache location: it is the temp file, which `LocalOk (written k)` speaks of
      refine hinv.goto (fun p hp => ?_) trivial
      rw [upd_other (hp _)]
      by_cases e : p = .cache k
      · subst e; exact .inr ⟨k, c, rfl, upd_same .., hl c hc⟩
      · exact .inl (upd_other e)

/-- removing files keeps `Inv`; foreign files may also appear: no part of the invariant reads them -/
theorem Inv.of_files_subset {w : World} (hinv : Inv w) {F : Path → Option Bytes} {D : Ty → Bool} {L : List Ev}
    (hF : ∀ p c, (∀ ty n, p ≠ .foreign ty n) → F p = some c → w.files p = some c) :
    Inv ⟨F, D, w.remote, w.tags, w.pcs, L⟩ :=
  ⟨fun k c h => hinv.cache k c (hF _ c nofun h), fun t => (hinv.loc t).of_tmp_subset fun _ c => hF _ c nofun⟩

theorem inv_step (w : World) (a : Action) (hinv : Inv w) : Inv (step w a) := by
  cases a with
  | loader t c => exact inv_threadStep hinv (stepLoader_sound w t c)
  | spawn t ty rel => exact inv_threadStep hinv (spawn_sound w t ty rel)
  | clearTy ty => exact hinv.of_files_subset fun p c _ h => by split at h; exact nomatch h; exact h
  | clearAll => exact hinv.of_files_subset fun _ _ _ h => nomatch h
  | stray ty name b => exact hinv.of_files_subset fun p c hp h => (upd_other (hp ty name)).symm.trans h

theorem inv_run (w : World) (as : List Action) (hinv : Inv w) : Inv (run w as) :=
  List.foldlRecOn (motive := Inv) as step hinv fun w h a _ => inv_step w a h

theorem inv_init (remote : Key → Option Bytes) (tags : Ty → List Nat) : Inv (World.init remote tags) :=
  ⟨nofun, fun _ => trivial⟩

theorem step_remote (w : World) (a : Action) : (step w a).remote = w.remote := by
  cases a with
  | loader t c => exact (stepLoader_sound w t c).remote
  | spawn t ty rel => exact (spawn_sound w t ty rel).remote
  | _ => rfl

theorem run_remote (w : World) (as : List Action) : (run w as).remote = w.remote :=
  List.foldlRecOn (motive := fun w' => w'.remote = w.remote) as step rfl fun w' h a _ => (step_remote w' a).trans h

/-- thread `t` is between "isfile said False" and "fetch" for key `k` -/
def Pend (w : World) (t : Nat) (k : Key) : Prop :=
  w.pcs t = .checked k ∨ w.pcs t = .dirMade k ∨ w.pcs t = .tmpMade k

/-- **A release is fetched only after the thread saw that no local copy exists** (`fetches`); `pending` is what makes that
inductive: a thread on its way to the fetch has its `isfile = False` in the log. -/
structure LogInv (w : World) : Prop where
  fetches : ∀ (i t : Nat) (k : Key), w.log[i]? = some (Ev.fetch t k) → ∃ j : Nat, j < i ∧ w.log[j]? = some (Ev.isfile t k false)
  pending : ∀ (t : Nat) (k : Key), Pend w t k → ∃ j : Nat, w.log[j]? = some (Ev.isfile t k false)

theorem LogInv.snoc {w : World} (h : LogInv w) (e : Ev)
    (he : match e with | .fetch t k => Pend w t k | _ => True) : LogInv { w with log := w.log ++ [e] } := by
  have old {j x} (hj : w.log[j]? = some x) : (w.log ++ [e])[j]? = some x :=
    (List.getElem?_append_left (List.getElem?_eq_some_iff.mp hj).1).trans hj
  refine ⟨fun i t k hi => ?_, fun t k hk => (h.pending t k hk).imp fun _ => old⟩
  replace hi : (w.log ++ [e])[i]? = _ := hi
  by_cases hlt : i < w.log.length
  · rw [List.getElem?_append_left hlt] at hi
    obtain ⟨j, hj, hjj⟩ := h.fetches i t k hi
    exact ⟨j, hj, old hjj⟩
  · rw [List.getElem?_append_right (Nat.le_of_not_lt hlt)] at hi
    cases List.mem_singleton.mp (List.mem_of_getElem? hi)
    obtain ⟨j, hj⟩ := h.pending t k he
    exact ⟨j, Nat.lt_of_lt_of_le (List.getElem?_eq_some_iff.mp hj).1 (Nat.le_of_not_lt hlt), old hj⟩

/-- `LogInv.pending` as a condition on the pc a thread moves to (the counterpart of `LocalOk`) -/
def LogOk (w : World) (t : Nat) : PC → Prop
  | .checked k | .dirMade k | .tmpMade k => ∃ j : Nat, w.log[j]? = some (Ev.isfile t k false)
  | _ => True

theorem LogInv.goto {w : World} (h : LogInv w) {F : Path → Option Bytes} {D : Ty → Bool} {t : Nat} {pc : PC}
    (hp : LogOk w t pc) : LogInv (World.goto ⟨F, D, w.remote, w.tags, w.pcs, w.log⟩ t pc) := by
  refine ⟨h.fetches, fun t' k hk => ?_⟩
  replace hk : upd w.pcs t pc t' = _ ∨ upd w.pcs t pc t' = _ ∨ upd w.pcs t pc t' = _ := hk
  by_cases e : t' = t
  · subst e; rw [upd_same] at hk; rcases hk with rfl | rfl | rfl <;> exact hp
  · rw [upd_other e] at hk; exact h.pending t' k hk

theorem logInv_threadStep {w w' : World} {t : Nat} (h : LogInv w) (hs : ThreadStep w t w') : LogInv w' := by
  cases hs with
  | stay => exact h
  | dead | failed | cleanup | start | writeGone | tornWrite | remove => exact h.goto trivial
  | fetchFail k hpc => exact (h.snoc (.fetch t k) (.inr (.inr hpc))).goto trivial
  | ok hpc hs =>
    cases hs with
    | start | latest | read | write | load => exact h.goto trivial
    | found k => exact (h.snoc (.isfile t k true) trivial).goto trivial
    | rename k => exact (h.snoc (.stored t k) trivial).goto trivial
    | missing k => exact (h.snoc (.isfile t k false) trivial).goto ⟨w.log.length, List.getElem?_concat_length⟩
    | mkdir k => exact h.goto (h.pending t k (.inl hpc))
    | mkstemp k => exact h.goto (h.pending t k (.inr (.inl hpc)))
    | fetch k => exact (h.snoc (.fetch t k) (.inr (.inr hpc))).goto trivial

theorem logInv_step (w : World) (a : Action) (h : LogInv w) : LogInv (step w a) := by
  cases a with
  | loader t c => exact logInv_threadStep h (stepLoader_sound w t c)
  | spawn t ty rel => exact logInv_threadStep h (spawn_sound w t ty rel)
  -- clearing and stray files touch `files` and `dirs` only: `log` and `pcs`, all that `LogInv` reads, are the same terms
  | _ => exact ⟨h.fetches, h.pending⟩

theorem logInv_run (w : World) (as : List Action) (h : LogInv w) : LogInv (run w as) :=
  List.foldlRecOn (motive := LogInv) as step h fun w h a _ => logInv_step w a h

theorem logInv_init (remote : Key → Option Bytes) (tags : Ty → List Nat) : LogInv (World.init remote tags) :=
  ⟨nofun, fun _ _ h => nomatch h⟩

theorem spawn_notInFlight {w : World} {t : Nat} (ty : Ty) (rel : Option Nat)
    (h : w.pcs t = .idle ∨ w.pcs t = .failed ∨ ∃ k c, w.pcs t = .loaded k c) :
    step w (.spawn t ty rel) = w.goto t (.start ty rel) := by
  rcases h with h | h | ⟨k, c, h⟩ <;> simp only [step, h] <;> rfl

theorem stepLoader_loaded (w : World) (t : Nat) (k : Key) (c : Bytes) :
    stepLoader (w.goto t (.loaded k c)) t .ok = w.goto t (.loaded k c) := by
  simp only [stepLoader, World.goto, upd_same]

/-- **Recovery.** From ANY world satisfying the invariant (whatever earlier failures, kills, races and clears left
behind — stray temp files, missing or existing directories, a cached copy or none) a loader `t` that is not in flight
and runs undisturbed against a remote that serves `b` for the key ends in `loaded` with exactly `b`. -/
theorem recovery (w : World) (hinv : Inv w) (t : Nat) (ty : Ty) (r : Nat) (b : Bytes)
    (hidle : w.pcs t = .idle ∨ w.pcs t = .failed ∨ ∃ k c, w.pcs t = .loaded k c)
    (hrem : w.remote ⟨ty, r⟩ = some b) :
    (run w (healthyLoad t ty (some r))).pcs t = .loaded ⟨ty, r⟩ b := by
  simp only [healthyLoad, run, List.replicate, List.foldl, step.eq_1]
  rw [spawn_notInFlight _ _ hidle, OkStep.eq_goto (.start ..)]
  cases hc : w.files (.cache ⟨ty, r⟩) with
  | some c =>
    -- a complete copy is there (by the invariant it is the remote's content): hit, load, and seven idle steps
    obtain rfl : c = b := Option.some.inj ((hinv.cache _ _ hc).symm.trans hrem)
    rw [OkStep.eq_goto (.found _ _ hc), OkStep.eq_goto (.load _ _ hc)]
    simp only [stepLoader_loaded]
    exact upd_same ..
  | none =>
    rw [OkStep.eq_goto (.missing _ hc), OkStep.eq_goto (.mkdir _),
      OkStep.eq_goto (.mkstemp _ (upd_same ..)), OkStep.eq_goto (.fetch _ _ hrem), OkStep.eq_goto (.read ..),
      OkStep.eq_goto (.write _ _ _ (upd_same ..)), OkStep.eq_goto (.rename _ _ (upd_same ..)),
      OkStep.eq_goto (.load _ _ ((upd_other (by nofun)).trans (upd_same ..))), stepLoader_loaded]
    exact upd_same ..

end Hpv.Store
