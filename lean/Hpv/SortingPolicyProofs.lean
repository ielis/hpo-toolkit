/-
The clustering policy of `_hierarchical_cluster` (Hpv.Sorting.clusterLoop) never pops outside its list and ends with one
tree over exactly the input leaves - for EVERY similarity oracle and every epsilon. With `findIndices` this makes `argsort`
total and a permutation without any assumption about the merges.
-/
import Hpv.SortingProofs

namespace Hpv.Sorting
variable {κ : Type}

/-- `argmaxFirstAux f m` is the first position among `0..m` at which `f` is greatest -/
theorem argmaxFirstAux_spec (f : Nat → Int) (m : Nat) :
    argmaxFirstAux f m ≤ m ∧ (∀ i < m + 1, f i ≤ f (argmaxFirstAux f m)) ∧
      ∀ j < argmaxFirstAux f m, f j < f (argmaxFirstAux f m) := by
  fun_induction argmaxFirstAux f m with
  | case1 => exact ⟨Nat.le_refl 0, fun i hi => Nat.lt_one_iff.mp hi ▸ Int.le_refl _, nofun⟩
  | case2 m hlt ih =>
    -- a new maximum at `m + 1`: everything before it is strictly smaller
    have below : ∀ i < m + 1, f i < f (m + 1) := fun i hi => Int.lt_of_le_of_lt (ih.2.1 i hi) hlt
    exact ⟨Nat.le_refl _, Nat.forall_lt_succ_right.mpr ⟨fun i hi => Int.le_of_lt (below i hi), Int.le_refl _⟩, below⟩
  | case3 m hge ih => exact ⟨Nat.le_succ_of_le ih.1, Nat.forall_lt_succ_right.mpr ⟨ih.2.1, Int.not_lt.mp hge⟩, ih.2.2⟩

/-- The two positions one round pops (the last two when nothing similar is left, else the row and column of the first maximum
of the similarity matrix, the larger one first): the second is not above the first, which is inside the list. They coincide
only for a maximum on the (zero) diagonal: then `eps` is negative and, position 0 being on the diagonal too, the maximum is
the very first entry. -/
theorem choose_spec {n : Nat} (hn : 2 ≤ n) (s : Nat → Nat → Int) (eps : Int) :
    ∃ hi lo, choose n s eps = (hi, lo) ∧ lo ≤ hi ∧ hi < n ∧ (lo = hi → hi = 0 ∧ eps < 0) := by
  have hn0 : 0 < n := Nat.lt_of_lt_of_le Nat.zero_lt_two hn
  fun_cases choose n s eps
  · have h : n - 2 < n - 1 := Nat.sub_lt_sub_left hn (Nat.lt_succ_self 1)
    exact ⟨_, _, rfl, Nat.le_of_lt h, Nat.sub_one_lt (Nat.ne_of_gt hn0), fun e => absurd e (Nat.ne_of_lt h)⟩
  · next k r c hgt =>
    have hkn : k < n * n :=
      Nat.lt_of_le_of_lt (argmaxFirstAux_spec _ _).1 (Nat.sub_lt (Nat.mul_pos hn0 hn0) Nat.one_pos)
    refine ⟨_, _, rfl, Nat.le_trans (Nat.min_le_left ..) (Nat.le_max_left ..),
      Nat.max_lt.mpr ⟨Nat.div_lt_of_lt_mul hkn, Nat.mod_lt k hn0⟩, fun h => ?_⟩
    have hrc : r = c :=
      Nat.le_antisymm (Nat.le_trans (Nat.le_max_left ..) (h ▸ Nat.min_le_right ..))
        (Nat.le_trans (Nat.le_max_right ..) (h ▸ Nat.min_le_left ..))
    rw [entry, if_pos hrc] at hgt
    -- were `k > 0`, the entry at position 0 (which is 0) would be below the entry at `k` (0 as well)
    have hk0 : k = 0 := Decidable.by_contra fun h0 => by
      have := (argmaxFirstAux_spec (fun k => entry s (k / n) (k % n)) (n * n - 1)).2.2 0 (Nat.pos_of_ne_zero h0)
      rw [Nat.zero_div, Nat.zero_mod, entry, entry, if_pos rfl, if_pos hrc] at this
      exact Int.lt_irrefl 0 this
    exact ⟨show max (k / n) (k % n) = 0 by rw [hk0, Nat.zero_div, Nat.zero_mod]; rfl, Int.not_le.mp hgt⟩

theorem choose_valid {n : Nat} (hn : 2 ≤ n) (s : Nat → Nat → Int) (eps : Int) :
    (choose n s eps).1 < n ∧ (choose n s eps).2 + 1 < n := by
  obtain ⟨hi, lo, h, h1, h2, h3⟩ := choose_spec hn s eps
  rw [h]
  -- below `hi` there is room for `lo + 1`; if the two coincide they are 0, and `n` is at least 2
  exact ⟨h2, (Nat.lt_or_eq_of_le h1).elim (Nat.lt_of_le_of_lt · h2) fun e => by rw [e, (h3 e).1]; exact hn⟩

theorem choose_lt {n : Nat} (hn : 2 ≤ n) (s : Nat → Nat → Int) (eps : Int) (heps : 0 ≤ eps) :
    (choose n s eps).2 < (choose n s eps).1 := by
  obtain ⟨hi, lo, h, h1, _, h3⟩ := choose_spec hn s eps
  rw [h]
  exact Nat.lt_of_le_of_ne h1 fun e => absurd (h3 e).2 (Int.not_lt.mpr heps)

theorem clusterLoop_eq_cluster (sim : List (Tree κ) → Nat → Nat → Int) (eps : Int) (heps : 0 ≤ eps) (fuel : Nat)
    (nodes : List (Tree κ)) :
    clusterLoop sim eps fuel nodes = cluster (policyTrace sim eps fuel nodes) nodes := by
  fun_induction policyTrace sim eps fuel nodes with
  | case1 => rfl
  | case2 fuel nodes h1 => exact if_pos h1
  -- a pop that fails stops both models with `none`: the equation does not rest on the pops being valid
  | case3 fuel nodes h1 ij hp => rw [clusterLoop, if_neg h1, hp, cluster, clusterStep_eq, hp, ite_self]; rfl
  | case4 fuel nodes h1 ij nodes' hp ih =>
    rw [clusterLoop, if_neg h1, hp, cluster, clusterStep_eq,
      if_pos (choose_lt (Nat.lt_of_not_le h1) (sim nodes) eps heps), hp]
    exact ih

theorem clusterLoop_total (sim : List (Tree κ) → Nat → Nat → Int) (eps : Int) (fuel : Nat) (nodes : List (Tree κ))
    (hf : nodes.length ≤ fuel + 1) (hpos : 0 < nodes.length) :
    ∃ t, clusterLoop sim eps fuel nodes = some [t] ∧ (leaves [t]).Perm (leaves nodes) := by
  induction fuel generalizing nodes with
  | zero =>
    obtain ⟨t, rfl⟩ := List.length_eq_one_iff.mp (Nat.le_antisymm hf hpos)
    exact ⟨t, rfl, .refl _⟩
  | succ fuel ih =>
    rw [clusterLoop]
    by_cases h1 : nodes.length ≤ 1
    · obtain ⟨t, rfl⟩ := List.length_eq_one_iff.mp (Nat.le_antisymm h1 hpos)
      exact ⟨t, rfl, .refl _⟩
    · have ⟨hv1, hv2⟩ := choose_valid (Nat.lt_of_not_le h1) (sim nodes) eps
      obtain ⟨nodes', hp⟩ := popTwice_isSome hv1 hv2
      have ⟨hperm, hlen⟩ := popTwice_leaves hp
      rw [if_neg h1, hp, Option.bind_some]
      rw [← hlen] at hf h1
      obtain ⟨t, ht, htp⟩ := ih nodes' (Nat.le_of_succ_le_succ hf) (Nat.lt_of_succ_lt_succ (Nat.lt_of_not_le h1))
      exact ⟨t, ht, htp.trans hperm⟩

end Hpv.Sorting
