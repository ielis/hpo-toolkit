/-
C03 — all views of the hierarchy agree: implementations, predicates, indices, id forms.
Model: Hpv/GraphModel.lean.  Predicates, leaf test and index API are characterised by the relations that C01 proves for
the traversals (the indexed graph answers `is_child_of` / `is_descendant_of` from the subject's side, the matrix graphs scan
the traversal), so all views - and, end to end, all three factories (`factories_agree`) - agree.
Argument forms are normalised before anything else happens — C04.round_trip / C04.delimiter_forgotten.
-/
import Hpv.Props.C01

namespace Hpv.Props.C03
open Hpv.Graph Hpv.Csr Hpv.Indexed Hpv.GM Hpv.Props.C01

variable {κ : Type} [DecidableEq κ]
variable {o : Graph.Ord κ} {owl : κ} {E : List (Edge κ)} {root : κ} {E' : List (Edge κ)} {g : IGraph κ}

/-- **Predicates of the indexed graph**, including the two that are answered from the subject's side. -/
theorem indexed_predicates (h : BuiltIx o owl E root E' g) (a b : κ) (ha : a ∈ g.nodes) (hb : b ∈ g.nodes) :
    (∃ r, g.pred o .parentOf (some a) (some b) = .ok r ∧ (r = true ↔ IsA E' b a)) ∧
    (∃ r, g.pred o .childOf (some a) (some b) = .ok r ∧ (r = true ↔ IsA E' a b)) ∧
    (∃ r, g.pred o .ancestorOf (some a) (some b) = .ok r ∧ (r = true ↔ Relation.TransGen (IsA E') b a)) ∧
    (∃ r, g.pred o .descendantOf (some a) (some b) = .ok r ∧ (r = true ↔ Relation.TransGen (IsA E') a b)) := by
  obtain ⟨ai, hai, haidx, _⟩ := h.lookup a ha
  obtain ⟨bi, hbi, hbidx, _⟩ := h.lookup b hb
  -- each predicate scans the index-space answer to an upward query for the index of the other node
  have key : ∀ (q : Q) {i j : Nat} {v w : κ}, g.nodes[i]? = some v → g.nodes[j]? = some w →
      ∃ r, (g.queryIdx q i).map (fun l => l.any fun k => (j : Int) = (k : Int)) = .ok r ∧ (r = true ↔ q.answer E' v w) := by
    intro q i j v w hi hj
    obtain ⟨idxs, hq, _, hmem⟩ := h.queryIdx_spec q hi
    exact ⟨_, by rw [hq]; rfl, by simp only [List.any_eq_true, decide_eq_true_eq, Int.natCast_inj, exists_eq_right', hmem.mem_iff hj]⟩
  simp only [IGraph.pred, hbidx, haidx, IGraph.predIdx]
  exact ⟨key .parents hbi hai, key .parents hai hbi, key .ancestors hbi hai, key .ancestors hai hbi⟩

/-- **Predicate = membership in the traversal**, and the converse relations, for the indexed graph. -/
theorem predicate_iff_traversal (h : BuiltIx o owl E root E' g) (a b : κ) (ha : a ∈ g.nodes) (hb : b ∈ g.nodes) :
    (∃ r res, g.pred o .parentOf (some a) (some b) = .ok r ∧ g.query o .parents (some b) false = .ok res ∧ (r = true ↔ a ∈ res)) ∧
    (∃ r res, g.pred o .childOf (some a) (some b) = .ok r ∧ g.query o .children (some b) false = .ok res ∧ (r = true ↔ a ∈ res)) ∧
    (∃ r res, g.pred o .ancestorOf (some a) (some b) = .ok r ∧ g.query o .ancestors (some b) false = .ok res ∧ (r = true ↔ a ∈ res)) ∧
    (∃ r res, g.pred o .descendantOf (some a) (some b) = .ok r ∧ g.query o .descendants (some b) false = .ok res ∧ (r = true ↔ a ∈ res)) ∧
    -- converses
    (∃ r r', g.pred o .parentOf (some a) (some b) = .ok r ∧ g.pred o .childOf (some b) (some a) = .ok r' ∧ r = r') ∧
    (∃ r r', g.pred o .ancestorOf (some a) (some b) = .ok r ∧ g.pred o .descendantOf (some b) (some a) = .ok r' ∧ r = r') := by
  obtain ⟨⟨r1, p1, e1⟩, ⟨r2, p2, e2⟩, ⟨r3, p3, e3⟩, ⟨r4, p4, e4⟩⟩ := indexed_predicates h a b ha hb
  obtain ⟨_, ⟨r2', p2', e2'⟩, _, ⟨r4', p4', e4'⟩⟩ := indexed_predicates h b a hb ha
  have query := fun q => h.query_spec (v := b) q hb
  obtain ⟨res1, q1, _, m1⟩ := query .parents
  obtain ⟨res2, q2, _, m2⟩ := query .children
  obtain ⟨res3, q3, _, m3⟩ := query .ancestors
  obtain ⟨res4, q4, _, m4⟩ := query .descendants
  exact ⟨⟨r1, res1, p1, q1 false, e1.trans (m1 a).symm⟩, ⟨r2, res2, p2, q2 false, e2.trans (m2 a).symm⟩,
    ⟨r3, res3, p3, q3 false, e3.trans (m3 a).symm⟩, ⟨r4, res4, p4, q4 false, e4.trans (transGen_swap.symm.trans (m4 a).symm)⟩,
    ⟨r1, r2', p1, p2', Bool.eq_iff_iff.mpr (e1.trans e2'.symm)⟩, ⟨r3, r4', p3, p4', Bool.eq_iff_iff.mpr (e3.trans e4'.symm)⟩⟩

/-- the generic scan of `OntologyGraph._run_query` (matrix graphs) is membership in the traversal by definition -/
theorem matrix_predicates (o : Graph.Ord κ) (g : MGraph κ) (p : Pred) (a b : κ) (res : List κ)
    (h : g.query o (predQ p) (some b) false = .ok res) : g.pred o p (some a) (some b) = .ok (decide (a ∈ res)) := by
  simp only [MGraph.pred, h, Except.map, any_eq_decide_mem]

/-- **The three factories agree**: on every acyclic rooted edge list the indexed, incremental and builder-based
factories all succeed, with the same node array and root, and each of the four traversal queries returns the same
set of nodes (each node once) on all three graphs.  With `matrix_predicates` and `predicate_iff_traversal` the
predicates agree too. -/
theorem factories_agree (h : BuiltIx o owl E root E' g) (hacyc : ∀ x, ¬ Relation.TransGen (IsA E') x x) :
    ∃ gi gb, buildIncremental o owl E = .ok gi ∧ buildBuilder o owl E = .ok gb ∧
      gi.nodes = g.nodes ∧ gb.nodes = g.nodes ∧ gi.root = root ∧ gb.root = root ∧ g.nodes[g.root]? = some root ∧
      ∀ (q : Q) (v : κ), v ∈ g.nodes →
        ∃ r ri rb, g.query o q (some v) false = .ok r ∧ gi.query o q (some v) false = .ok ri ∧
          gb.query o q (some v) false = .ok rb ∧ r.Nodup ∧ ri.Nodup ∧ rb.Nodup ∧
          ∀ x, (x ∈ r ↔ x ∈ ri) ∧ (x ∈ r ↔ x ∈ rb) := by
  obtain ⟨hloop, h2⟩ := C01.acyclic_simple hacyc
  obtain ⟨gi, hgi, hri, hni, hrepi⟩ := incremental_represents h.strict h.hroot hloop h2
  obtain ⟨gb, hgb, hrb, hnb, hrepb⟩ := builder_represents h.strict h.hroot hloop h2
  refine ⟨gi, gb, hgi, hgb, hni.trans h.nodes_eq.symm, hnb.trans h.nodes_eq.symm, hri, hrb, h.root_idx, fun q v hv => ?_⟩
  obtain ⟨r, hq, nd, m⟩ := h.query_spec q hv
  obtain ⟨ri, hqi, ndi, mi, _⟩ := hrepi.query_spec h.strict q (hni ▸ h.nodes_eq ▸ hv)
  obtain ⟨rb, hqb, ndb, mb, _⟩ := hrepb.query_spec h.strict q (hnb ▸ h.nodes_eq ▸ hv)
  exact ⟨r, ri, rb, hq false, hqi, hqb, nd, ndi, ndb, fun x => ⟨(m x).trans (mi x).symm, (m x).trans (mb x).symm⟩⟩

/-- **Predicates of a matrix-backed graph, characterised by the edge relation** (so they agree with the indexed
graph's, `indexed_predicates`): for every graph whose matrix represents the rooted edge list - in particular the
graphs of the incremental and the builder-based factory (`incremental_represents`, `builder_represents`). -/
theorem matrix_predicates_exact {mg : MGraph κ} (hs : o.Strict) (hrep : Represents o mg E') (a b : κ) (hb : b ∈ mg.nodes) :
    (∃ r, mg.pred o .parentOf (some a) (some b) = .ok r ∧ (r = true ↔ IsA E' b a)) ∧
    (∃ r, mg.pred o .childOf (some a) (some b) = .ok r ∧ (r = true ↔ IsA E' a b)) ∧
    (∃ r, mg.pred o .ancestorOf (some a) (some b) = .ok r ∧ (r = true ↔ Relation.TransGen (IsA E') b a)) ∧
    (∃ r, mg.pred o .descendantOf (some a) (some b) = .ok r ∧ (r = true ↔ Relation.TransGen (IsA E') a b)) := by
  have key : ∀ p : Pred, ∃ r, mg.pred o p (some a) (some b) = .ok r ∧ (r = true ↔ (predQ p).answer E' b a) := fun p => by
    obtain ⟨res, hq, _, hm, _⟩ := hrep.query_spec hs (predQ p) hb
    exact ⟨_, matrix_predicates o mg p a b res hq, decide_eq_true_iff.trans (hm a)⟩
  obtain ⟨r, hr, hm⟩ := key .descendantOf
  exact ⟨key .parentOf, key .childOf, key .ancestorOf, r, hr, hm.trans transGen_swap⟩

/-- `is_leaf` of a matrix graph is "no children" -/
theorem leaf_iff_no_children (o : Graph.Ord κ) (mg : MGraph κ) (v : κ) (res : List κ)
    (hm : mg.query o .children (some v) false = .ok res) : mg.isLeaf o (some v) = .ok res.isEmpty := by
  simp only [MGraph.isLeaf, hm, Except.map]

/-- `is_leaf` of the indexed graph (which tests the row of the children array) is "no children" -/
theorem indexed_leaf (h : BuiltIx o owl E root E' g) (v : κ) (hv : v ∈ g.nodes) :
    ∃ res, g.query o .children (some v) false = .ok res ∧ g.isLeaf o (some v) = .ok res.isEmpty := by
  obtain ⟨i, hi, hidx, hlt⟩ := h.lookup v hv
  have hq := outgoing_ok (c := g.children) (h.indptr_length .children) hlt
  refine ⟨_, IGraph.query_ok h.strict h.sorted hi false hq, ?_⟩
  -- the row is empty iff its image is
  have : mapNodes g.nodes (g.children.row i) = [] ↔ g.children.row i = [] :=
    ((h.adjacency .children).row i v hi).labels_eq_nil ((h.adjacency .children).closed v)
  simp only [IGraph.isLeaf, hidx, IGraph.childrenIdx, hq, Except.map, Bool.false_eq_true, if_false, List.nil_append]
  exact congrArg _ (Bool.eq_iff_iff.mpr (by rw [List.isEmpty_iff, List.isEmpty_iff, this]))

/-- **Index API**: `idx_to_node` / `node_to_idx` are inverse bijections between `0..n-1` and the nodes, the root is
`idx_to_node(root_idx)`, and every node-level traversal is the image of the index-level traversal. -/
theorem index_bijection (h : BuiltIx o owl E root E' g) :
    (∀ i : Nat, i < g.nodes.length → ∃ v, g.idxToNode (i : Int) = .ok v ∧ g.nodeToIdx o v = some i) ∧
    (∀ v ∈ g.nodes, ∃ i, g.nodeToIdx o v = some i ∧ i < g.nodes.length ∧ g.idxToNode (i : Int) = .ok v) ∧
    G.root (.ix g) = .ok root ∧ g.root < g.nodes.length ∧
    (∀ (q : Q) (v : κ) (i : Nat) (incl : Bool) (idxs : List Nat), g.nodes[i]? = some v → g.queryIdx q (i : Int) = .ok idxs →
      g.query o q (some v) incl = .ok ((if incl then [v] else []) ++ mapNodes g.nodes idxs)) := by
  refine ⟨fun i hi => ?_, fun v hv => ?_, g.idxToNode_ok h.root_idx, (List.getElem?_eq_some_iff.mp h.root_idx).1,
    fun q v i incl idxs hi hq => IGraph.query_ok h.strict h.sorted hi incl hq⟩
  · have hget : g.nodes[i]? = some g.nodes[i] := List.getElem?_eq_getElem hi
    exact ⟨_, g.idxToNode_ok hget, (indexOf?_spec h.strict h.sorted).mpr hget⟩
  · obtain ⟨i, hi, hidx, hlt⟩ := h.lookup v hv
    exact ⟨i, hidx, hlt, g.idxToNode_ok hi⟩

-- non-vacuity on the diamond of C01.Example (9 is the root; 1 is the multi-parent leaf)
open Hpv.Props.C01.Example in
example : diamondGraph.pred natOrd .ancestorOf (some 9) (some 1) = .ok true ∧
    diamondGraph.pred natOrd .descendantOf (some 1) (some 9) = .ok true ∧
    diamondGraph.pred natOrd .childOf (some 1) (some 9) = .ok false ∧
    diamondGraph.idxToNode 3 = .ok 9 ∧ diamondGraph.nodeToIdx natOrd 9 = some 3 ∧ diamondGraph.root = 3 := by
  rw [diamondGraph, buildIndexed_diamond]
  decide +kernel

end Hpv.Props.C03
