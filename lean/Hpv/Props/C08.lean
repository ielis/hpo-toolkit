/-
C08 — HPOA loading aggregates lines into per-disease, per-phenotype frequencies.
Model: Hpv/Hpoa.lean, layer `aggregate` (grouping by database id then phenotype id, `_parse_frequency` on exact rationals
with half-to-even rounding, `Ratio.fold`, `check_numerator_and_denominator`).  The table of HPO frequency terms is read
from the running code on every run (exact rationals of the floats `lower_bound`, `upper_bound` and of the VALUE of
`.frequency`) and passed in; the side conditions on a table row (`lower ≤ freq ≤ upper`) are evaluated by the compiled
model.  Tab splitting / header handling / regexes are executable glue in the driver, tied by the correspondence run.
Floats: the code computes `round(freq * cohort)` in doubles; the tie accepts both neighbours when the exact product is
within 2^-30 of a half.
-/
import Hpv.HpoaProofs

namespace Hpv.Props.C08
open Hpv.Hpoa

/-- Exactly one disease per distinct database id; per disease exactly one annotation per distinct aspect-P phenotype id,
each produced from the lines of that group; the name comes from the first line; aspect-I ids are the modes of inheritance
(duplicate-free). -/
theorem one_per_key (cfg : Config) (freqOf : String → Freq) (lines : List Line) (ds : List Disease)
    (h : aggregate cfg freqOf lines = .ok ds) :
    ds.map (·.id) = keys (·.disease) lines ∧ (ds.map (·.id)).Nodup ∧
    ∀ d ∈ ds,
      let ls := group (·.disease) lines d.id
      let pl := ls.filter (fun l => l.aspect = some .P)
      d.anns.map (·.id) = keys (·.pheno) pl ∧ (d.anns.map (·.id)).Nodup ∧
      (∀ a ∈ d.anns, mkAnn cfg freqOf pl a.id = .ok a) ∧
      d.name = (ls.head?.map (·.name)).getD "" ∧
      d.moi.Nodup ∧ ∀ x, x ∈ d.moi ↔ ∃ l ∈ ls, l.aspect = some .I ∧ l.pheno = x := by
  obtain ⟨hids, hprod⟩ := (mapExcept_eq_ok.mp h).keyed (key := (·.id)) (fun _ _ hd => (mkDisease_ok hd).1)
  refine ⟨hids, hids ▸ (keys_spec _ _).1, fun d hd => ?_⟩
  obtain ⟨_, hname, hanns, hmoi⟩ := mkDisease_ok (hprod d hd)
  obtain ⟨haid, hann⟩ := hanns.keyed (key := (·.id)) (fun _ _ ha => by
    obtain ⟨_, _, _, _, rfl⟩ := mkAnn_eq_ok.mp ha; rfl)
  refine ⟨haid, haid ▸ (keys_spec _ _).1, hann, hname, hmoi ▸ nodup_dedupS _, fun x => ?_⟩
  simp only [hmoi, mem_dedupS, List.mem_map, List.mem_filter, decide_eq_true_eq, and_assoc]

/-- Numerator and denominator are the sums of the per-line counts; references and modifiers are united; the stored
annotation always satisfies `0 ≤ numerator` and `0 < denominator` (anything else is rejected). -/
theorem sums (cfg : Config) (freqOf : String → Freq) (lines : List Line) (pheno : String) (a : Ann)
    (h : mkAnn cfg freqOf lines pheno = .ok a) :
    ∃ rs, AllOk (fun l => lineRatio cfg l.neg (freqOf l.freq)) (group (·.pheno) lines pheno) rs ∧
      a.id = pheno ∧ a.num = (rs.map (·.1)).sum ∧ a.den = (rs.map (·.2)).sum ∧ 0 ≤ a.num ∧ 0 < a.den ∧
      (∀ x, x ∈ a.refs ↔ ∃ l ∈ group (·.pheno) lines pheno, x ∈ l.refs) ∧ a.refs.Nodup ∧
      (∀ x, x ∈ a.mods ↔ ∃ l ∈ group (·.pheno) lines pheno, x ∈ l.mods) ∧ a.mods.Nodup := by
  obtain ⟨rs, hrs, h1, h2, rfl⟩ := mkAnn_eq_ok.mp h
  refine ⟨rs, hrs, rfl, ?_, ?_, h1, h2, fun x => ?_, nodup_dedupS _, fun x => ?_, nodup_dedupS _⟩
  · rw [sumRatios_eq]
  · rw [sumRatios_eq]
  · rw [mem_dedupS, List.mem_flatMap]
  · rw [mem_dedupS, List.mem_flatMap]

/-- For well-formed lines (`n ≤ m`, `0 < m` unless the negated `0/0` form, percentage ≤ 100, frequency terms of the table
with `freq ≤ 1`, positive cohort size) every annotation satisfies `0 ≤ numerator ≤ denominator` and `0 < denominator`;
and `numerator ≠ 0` (the code's `is_present`) is the same as `0 < numerator`. -/
theorem invariant (cfg : Config) (hc : 0 < cfg.cohort) (freqOf : String → Freq) (lines : List Line) (pheno : String)
    (hne : group (·.pheno) lines pheno ≠ [])
    (hwf : ∀ l ∈ group (·.pheno) lines pheno, WfFreq cfg l.neg (freqOf l.freq)) :
    ∃ a, mkAnn cfg freqOf lines pheno = .ok a ∧ 0 ≤ a.num ∧ a.num ≤ a.den ∧ 0 < a.den ∧ (a.num ≠ 0 ↔ 0 < a.num) := by
  obtain ⟨rs, hrs, hb⟩ := AllOk.of_forall (fun l hl => lineRatio_proper hc (hwf l hl))
  have hne' : rs ≠ [] := fun e => hne (List.eq_nil_of_length_eq_zero (by rw [← allOk_length _ _ _ hrs, e]; rfl))
  obtain ⟨h1, h2, h3⟩ := sumRatios_proper hb
  exact ⟨_, mkAnn_eq_ok.mpr ⟨rs, hrs, h1, h3 hne', rfl⟩, h1, h2, h3 hne',
    fun h => Int.lt_iff_le_and_ne.mpr ⟨h1, Ne.symm h⟩, Int.ne_of_gt⟩

/-- A frequency written as an HPO frequency term lands inside that term's range up to rounding to the cohort size
(`lower·c − ½ ≤ numerator ≤ upper·c + ½`, over the common denominator), for EVERY table row with `lower ≤ freq ≤ upper`
and every cohort size; a percentage `p` lands within half a cohort unit of `p·c/100`. -/
theorem frequency_rounding (r : FreqRow) (c pn pd : Nat) (hD : 0 < r.denom) (hlo : r.lower ≤ r.freq) (hhi : r.freq ≤ r.upper)
    (hpd : 0 < pd) :
    (2 * (r.lower * c) ≤ 2 * (roundHalfEven (r.freq * c) r.denom * r.denom) + r.denom ∧
     2 * (roundHalfEven (r.freq * c) r.denom * r.denom) ≤ 2 * (r.upper * c) + r.denom) ∧
    (2 * (roundHalfEven (pn * c) (pd * 100) * (pd * 100)) ≤ 2 * (pn * c) + pd * 100 ∧
     2 * (pn * c) ≤ 2 * (roundHalfEven (pn * c) (pd * 100) * (pd * 100)) + pd * 100) :=
  ⟨roundHalfEven_between hD (Nat.mul_le_mul_right c hlo) (Nat.mul_le_mul_right c hhi),
    roundHalfEven_close _ _ (Nat.mul_pos hpd (by decide))⟩

/-- The result does not depend on the order of the data lines: the disease ids and the lines of every disease are the
same up to order, and every annotation keeps its sums and its sets of references and modifiers. -/
theorem line_order (cfg : Config) (freqOf : String → Freq) (lines lines' : List Line) (hp : lines.Perm lines') :
    (keys (·.disease) lines).Perm (keys (·.disease) lines') ∧
    (∀ k, (group (·.disease) lines k).Perm (group (·.disease) lines' k)) ∧
    ∀ pheno a, mkAnn cfg freqOf lines pheno = .ok a →
      ∃ a', mkAnn cfg freqOf lines' pheno = .ok a' ∧ a'.id = a.id ∧ a'.num = a.num ∧ a'.den = a.den ∧
        a'.refs.Perm a.refs ∧ a'.mods.Perm a.mods := by
  refine ⟨keys_perm _ hp, group_perm _ hp, fun pheno a h => ?_⟩
  have hg := group_perm (·.pheno) hp pheno
  obtain ⟨rs, hrs, h1, h2, rfl⟩ := mkAnn_eq_ok.mp h
  obtain ⟨rs', hrs', hperm⟩ := hrs.perm hg
  rw [sumRatios_perm hperm] at h1 h2 ⊢
  exact ⟨_, mkAnn_eq_ok.mpr ⟨rs', hrs', h1, h2, rfl⟩, rfl, rfl, rfl,
    dedupS_perm fun _ => (hg.flatMap_right _).symm.mem_iff, dedupS_perm fun _ => (hg.flatMap_right _).symm.mem_iff⟩

-- non-vacuity (rationals over denominator 100): Occasional 5%..29% with freq 17%, cohort 50 -> exact 8.5 -> 8
example : roundHalfEven (17 * 50) 100 = 8 ∧ roundHalfEven (100 * 50) 100 = 50 ∧ roundHalfEven (125 * 1000) (10 * 100) = 125 := by decide +kernel
-- (string comparison does not reduce in the kernel: compiled-code tests)
#guard (match lineRatio ⟨50, false, [⟨"HP:0040283", 5, 17, 29, 100⟩]⟩ false (.term "HP:0040283") with | .ok r => r == (8, 50) | .error _ => false)
example : lineRatio ⟨50, true, []⟩ true (.ratio 0 0) = .ok (0, 50) ∧ lineRatio ⟨50, false, []⟩ true (.ratio 0 0) = .ok (50, 50) ∧
    lineRatio ⟨50, false, []⟩ true (.ratio 3 8) = .ok (5, 8) := ⟨rfl, rfl, rfl⟩

end Hpv.Props.C08
