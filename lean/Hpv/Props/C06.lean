/-
C06 — ontology lookups resolve primary and alternate ids to current terms only.
Model: Hpv/Onto.lean (`create_minimal_ontology` / `create_ontology`, `make_term_id_map`, `get_term`, `__contains__`,
`__len__`, `terms`, `term_ids`, `get_term_name`).  Ids are the printed CURIE values (C04: value <-> (prefix, id)).
Hypothesis `DisjointIds`: the primary and alternate ids of CURRENT terms are pairwise distinct — the property's own
quantifier ("any disjoint assignment of alternate ids"); obsolete terms are arbitrary.
-/
import Hpv.OntoProofs

namespace Hpv.Props.C06
open Hpv.Sim Hpv.Onto

/-- A lookup succeeds exactly for the primary id and the alternate ids of current terms, and returns that term. -/
theorem lookup_iff (ts : List Term) (hd : DisjointIds ts) (k : Str) (t : Term) :
    getTerm ts k = some t ↔ t ∈ current ts ∧ (k = t.id ∨ k ∈ t.alts) := getTerm_spec ts hd k t

/-- Any other id returns `None` — in particular the primary id of an obsolete term that is nobody's alternate id. -/
theorem lookup_none (ts : List Term) (hd : DisjointIds ts) (k : Str)
    (h : ∀ t ∈ current ts, k ≠ t.id ∧ k ∉ t.alts) : getTerm ts k = none :=
  Option.eq_none_iff_forall_ne_some.mpr fun t hg =>
    have ⟨ht, hk⟩ := (getTerm_spec ts hd k t).mp hg
    hk.elim (h t ht).1 (h t ht).2

/-- An obsolete term is never returned by any lookup. -/
theorem obsolete_never (ts : List Term) (hd : DisjointIds ts) (k : Str) (t : Term) (h : getTerm ts k = some t) :
    t.obsolete = false := obsolete_never_returned ts hd k t h

/-- Length and the term iterator cover exactly the non-obsolete terms (in document order). -/
theorem len_terms (ts : List Term) :
    len ts = (ts.filter (fun t => !t.obsolete)).length ∧ terms ts = ts.filter (fun t => !t.obsolete) ∧
    ∀ t, t ∈ terms ts ↔ t ∈ ts ∧ t.obsolete = false :=
  ⟨rfl, rfl, mem_current ts⟩

/-- `in` is true exactly when the lookup succeeds; the name lookup is the lookup followed by `.name`. -/
theorem contains_name (ts : List Term) (k : Str) :
    contains ts k = (getTerm ts k).isSome ∧ getTermName ts k = (getTerm ts k).map (·.name) := ⟨rfl, rfl⟩

/-- The term-id iterator lists exactly the primary and alternate ids of current terms, each once. -/
theorem term_ids (ts : List Term) (hd : DisjointIds ts) :
    (termIds ts).Nodup ∧ ∀ k, k ∈ termIds ts ↔ ∃ t ∈ current ts, k = t.id ∨ k ∈ t.alts := by
  refine ⟨termIds_nodup ts, fun k => ?_⟩
  rw [mem_termIds, Option.isSome_iff_exists]
  exact exists_congr fun t => getTerm_spec ts hd k t

-- non-vacuity: a current term with two alternate ids, an obsolete term whose id is one of them, an unrelated obsolete term
def exTerms : List Term :=
  [⟨[1], [[2], [3]], false, [65]⟩, ⟨[2], [], true, [66]⟩, ⟨[9], [[7]], true, [67]⟩, ⟨[4], [], false, [68]⟩]

example : DisjointIds exTerms := by unfold DisjointIds; decide +kernel
example : (getTerm exTerms [2]).map (·.id) = some [1] ∧ getTerm exTerms [9] = none ∧ getTerm exTerms [7] = none ∧
    len exTerms = 2 ∧ termIds exTerms = [[1], [2], [3], [4]] := by decide +kernel

end Hpv.Props.C06
