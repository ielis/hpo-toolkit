/-
C18 — module-level traversal helpers (hpotk.algorithm._traversal / _augment) agree with the graph they wrap.
Model: `helper`, `existsPath`, `augmentOne`, `augmentMany` in Hpv/GraphModel.lean; frozensets are duplicate-free lists.
What the graph queries themselves return is C01's subject; these theorems hold for every shipped graph `G κ`.
-/
import Hpv.Props.C01

namespace Hpv.Props.C18
open Hpv.Graph Hpv.GM

variable {κ : Type} [DecidableEq κ]

/-- Each helper returns exactly the set of the corresponding graph query, plus the source when (and only when) asked. -/
theorem helper_spec (o : Graph.Ord κ) (g : G κ) (q : Q) (k : κ) (incl : Bool) (res : List κ)
    (h : g.query o q (some k) false = .ok res) :
    ∃ s, helper o g q (some k) incl = .ok s ∧ s.Nodup ∧ ∀ x, x ∈ s ↔ x ∈ res ∨ (incl = true ∧ x = k) := by
  refine ⟨dedup ((if incl then [k] else []) ++ res), by simp only [helper, h, Except.map], nodup_dedup _, ?_⟩
  intro x
  rw [mem_dedup]
  cases incl <;> simp [or_comm]

/-- a failing graph query (unknown node) fails the helper in the same way -/
theorem helper_error (o : Graph.Ord κ) (g : G κ) (q : Q) (k : κ) (incl : Bool) (e : Err)
    (h : g.query o q (some k) false = .error e) : helper o g q (some k) incl = .error e := by
  simp only [helper, h, Except.map]

/-- A path exists from `a` to `b` exactly when `b` is among the ancestors of `a` and differs from `a`. -/
theorem existsPath_spec (o : Graph.Ord κ) (g : G κ) (a b : κ) (res : List κ)
    (h : g.query o .ancestors (some a) false = .ok res) :
    existsPath o g (some a) (some b) = .ok (decide (a ≠ b ∧ b ∈ res)) := by
  obtain ⟨s, hs, _, hmem⟩ := helper_spec o g .ancestors a false res h
  unfold existsPath
  dsimp only
  by_cases hab : a = b
  · rw [if_pos hab, decide_eq_false fun h => h.1 hab]
  · have hb : b ∈ s ↔ a ≠ b ∧ b ∈ res := (hmem b).trans ⟨fun h => ⟨hab, h.resolve_right fun h => nomatch h.1⟩, fun h => .inl h.2⟩
    simp only [if_neg hab, hs, Except.map, any_eq_decide_mem, hb]

/-- Augmenting a single term is the helper applied to that term — for ancestors AND for descendants. -/
theorem augment_one (o : Graph.Ord κ) (g : G κ) (q : Q) (src : Option κ) (incl : Bool) :
    augmentOne o g q src incl = helper o g q src incl := rfl

/-- Augmenting a collection returns the union of the closures of its members. -/
theorem augment_many (o : Graph.Ord κ) (g : G κ) (q : Q) (srcs : List (Option κ)) (incl : Bool)
    (hall : ∀ s ∈ srcs, ∃ l, helper o g q s incl = .ok l) :
    ∃ u, augmentMany o g q srcs incl = .ok u ∧ u.Nodup ∧
      ∀ x, x ∈ u ↔ ∃ s ∈ srcs, ∃ l, helper o g q s incl = .ok l ∧ x ∈ l := by
  suffices H : ∀ (acc : List κ), acc.Nodup →
      ∃ u, srcs.foldl (augStep o g q incl) (.ok acc) = .ok u ∧ u.Nodup ∧
      ∀ x, x ∈ u ↔ x ∈ acc ∨ ∃ s ∈ srcs, ∃ l, helper o g q s incl = .ok l ∧ x ∈ l by
    obtain ⟨u, h1, h2, h3⟩ := H [] List.nodup_nil
    exact ⟨u, h1, h2, fun x => (h3 x).trans (or_iff_right List.not_mem_nil)⟩
  induction srcs with
  | nil => exact fun acc hacc => ⟨acc, rfl, hacc, fun x => (or_iff_left nofun).symm⟩
  | cons s rest ih =>
    intro acc _
    obtain ⟨l, hl⟩ := hall s List.mem_cons_self
    obtain ⟨u, h1, h2, h3⟩ := ih (fun s' hs' => hall s' (List.mem_cons_of_mem _ hs')) (dedup (acc ++ l)) (nodup_dedup _)
    refine ⟨u, by simp only [List.foldl_cons, augStep, hl]; exact h1, h2, fun x => ?_⟩
    simp only [h3 x, mem_dedup, List.mem_append, List.mem_cons, or_and_right, exists_or, exists_eq_left, hl,
      Except.ok.injEq, exists_eq_left', or_assoc]

/-- the empty collection gives ∅ -/
theorem augment_empty (o : Graph.Ord κ) (g : G κ) (q : Q) (incl : Bool) : augmentMany o g q [] incl = .ok [] := rfl

/-- **`exists_path`, end to end, for the graphs of all three factories**: on an acyclic rooted edge list a path exists
from `a` to `b` exactly when `b` is reachable from `a` over one or more is_a edges (a strict ancestor). -/
theorem exists_path_exact {o : Graph.Ord κ} {owl : κ} {E : List (Edge κ)} {root : κ} {E' : List (Edge κ)} {g : IGraph κ}
    (h : BuiltIx o owl E root E' g) (hacyc : ∀ x, ¬ Relation.TransGen (Hpv.Props.C01.IsA E') x x)
    (a b : κ) (ha : a ∈ g.nodes) :
    ∃ gi gb, buildIncremental o owl E = .ok gi ∧ buildBuilder o owl E = .ok gb ∧
      ∀ G : G κ, (G = .ix g ∨ G = .mx gi ∨ G = .mx gb) →
        ∃ r, existsPath o G (some a) (some b) = .ok r ∧ (r = true ↔ Relation.TransGen (Hpv.Props.C01.IsA E') a b) := by
  obtain ⟨hloop, h2⟩ := Hpv.Props.C01.acyclic_simple hacyc
  obtain ⟨gi, hgi, _, hni, hrepi⟩ := incremental_represents h.strict h.hroot hloop h2
  obtain ⟨gb, hgb, _, hnb, hrepb⟩ := builder_represents h.strict h.hroot hloop h2
  have ha' : a ∈ nodesOf o E' := h.nodes_eq ▸ ha
  refine ⟨gi, gb, hgi, hgb, fun G hG => ?_⟩
  -- each of the three answers the ancestor query with the strict ancestors
  obtain ⟨res, hq, hm⟩ : ∃ res, G.query o .ancestors (some a) false = .ok res ∧
      ∀ x, x ∈ res ↔ Relation.TransGen (Hpv.Props.C01.IsA E') a x := by
    obtain rfl | rfl | rfl := hG
    · obtain ⟨res, hq, _, hm⟩ := h.query_spec .ancestors ha
      exact ⟨res, hq false, hm⟩
    · obtain ⟨res, hq, _, hm, _⟩ := hrepi.query_spec h.strict .ancestors (hni ▸ ha')
      exact ⟨res, hq, hm⟩
    · obtain ⟨res, hq, _, hm, _⟩ := hrepb.query_spec h.strict .ancestors (hnb ▸ ha')
      exact ⟨res, hq, hm⟩
  -- and `a` is not among them
  exact ⟨_, existsPath_spec o G a b res hq, decide_eq_true_iff.trans
    ⟨fun hb => (hm b).mp hb.2, fun hab => ⟨fun heq => hacyc a (heq ▸ hab), (hm b).mpr hab⟩⟩⟩

-- non-vacuity on the C01 example graph
open Hpv.Props.C01.Example in
example : helper natOrd (.ix diamondGraph) .descendants (some 9) true = .ok [9, 2, 1, 3] ∧
    existsPath natOrd (.ix diamondGraph) (some 1) (some 9) = .ok true ∧
    existsPath natOrd (.ix diamondGraph) (some 9) (some 9) = .ok false ∧
    augmentOne natOrd (.ix diamondGraph) .descendants (some 3) false = .ok [1] ∧
    augmentMany natOrd (.ix diamondGraph) .ancestors [some 2, some 3] false = .ok [9] := by
  rw [diamondGraph, buildIndexed_diamond]
  decide +kernel

end Hpv.Props.C18
