/-
C15 — the similarity container is a symmetric map; the CSV round trip is lossless.
Model: Hpv/Sim.lean (`SimilarityContainer` as a history machine over the nested dict keyed by the ordered pair;
`MetadataAware.metadata_to_str/_from_str` over code-point strings, parametric in the table of forbidden characters that
the check extracts from the source on every run).  Values are integers standing for floats under an order-preserving
injection (the container only compares with 0 and stores).  The csv dialect (writer with minimal or any stronger quoting,
the reader's state machine over physical lines, the `DictReader` layer) is Hpv/Csv.lean, so the file-level round trip is a
theorem from the rows to the rows (`csv_round_trip`, `file_round_trip`); `gzip`, the codec and `repr(float)`/`float(str)`
are not modelled (correspondence run).
-/
import Hpv.SimFileProofs
import Hpv.CsvProofs

namespace Hpv.Props.C15
open Hpv.Sim

/-- After any history, a read of `(x, y)` — in either order — returns the value most recently *accepted* for that
unordered pair, and 0 if there is none; rejected (negative) sets and reads have no effect on later reads. -/
theorem last_write (ops : List Op) (x y : Str) :
    get (run ops) x y = spec ops.reverse x y ∧ get (run ops) x y = get (run ops) y x :=
  ⟨get_run ops x y, get_comm (run ops) x y⟩

/-- `spec` really is "last accepted write on the unordered pair" -/
theorem spec_unfold (hist : List Op) (a b x y : Str) (v : Int) :
    spec (Op.set a b v :: hist) x y = (if v < 0 then spec hist x y else if norm a b = norm x y then v else spec hist x y) ∧
    spec (Op.get a b :: hist) x y = spec hist x y ∧ spec (Op.len :: hist) x y = spec hist x y ∧
    spec [] x y = 0 ∧ norm a b = norm b a :=
  ⟨rfl, rfl, rfl, rfl, norm_comm a b⟩

/-- A negative value is rejected without any effect; reads never change the state. -/
theorem rejected_no_effect (s : State) (a b : Str) (v : Int) (hv : v < 0) :
    Hpv.Sim.set s a b v = .error .valueError ∧ stepOp s (Op.set a b v) = s ∧ stepOp s (Op.get a b) = s ∧ stepOp s Op.len = s :=
  ⟨(set_eq s a b v).trans (if_pos hv), (stepOp_set s a b v).trans (if_pos hv), rfl, rfl⟩

/-- Length and item listing cover every stored unordered pair exactly once: the listing has no repeated key, every
listed triple is keyed by the ordered pair and carries the value a read returns, a pair is listed exactly when an
accepted `set` addressed it (in either order), and `len` is the number of listed items. -/
theorem items_len (ops : List Op) :
    ((items (run ops)).map (fun t => (t.1, t.2.1))).Nodup ∧
    (∀ o i v, (o, i, v) ∈ items (run ops) → sle o i = true ∧ get (run ops) o i = v ∧ 0 ≤ v) ∧
    (∀ o i, (∃ v, (o, i, v) ∈ items (run ops)) ↔ ∃ a b v, Op.set a b v ∈ ops ∧ 0 ≤ v ∧ norm a b = (o, i)) ∧
    len (run ops) = (items (run ops)).length := by
  have hwf := wf_run ops
  obtain ⟨h1, h2⟩ := items_spec hwf
  refine ⟨h1, h2, fun o i => ?_, len_eq_items _⟩
  simp only [mem_items_iff hwf]
  exact stored_run ops (o, i)

/-- Re-inserting the listed items (what `from_csv` does with the rows `to_csv` wrote) gives a container with the same
similarities for every pair in either order. -/
theorem rows_round_trip (ops : List Op) (x y : Str) : get (rebuild (run ops)) x y = get (run ops) x y :=
  rebuild_any_order (run ops) (wf_run ops) _ (.refl _) x y

/-- Metadata round trip, for every table of forbidden characters containing `;`, `=`, LF and CR: the encoded header
line contains no line break and decodes to the same dictionary. -/
theorem meta_round_trip (forb : List Nat) (htab : TableOk forb = true) (m : Meta) (hm : MetaOk forb m) :
    ∃ s, encodeMeta forb m = .ok s ∧ decodeMeta s = .ok m ∧ (10 : Nat) ∉ s ∧ (13 : Nat) ∉ s :=
  Hpv.Sim.meta_round_trip forb htab m hm

/-- Metadata containing a reserved character is rejected instead of being written corrupted. -/
theorem meta_rejected (forb : List Nat) (m : Meta) (kv : Str × Str) (hkv : kv ∈ m)
    (h : hasForbidden forb kv.1 = true ∨ hasForbidden forb kv.2 = true) : encodeMeta forb m = .error .valueError :=
  Hpv.Sim.meta_rejected forb m kv hkv h

/-- `to_csv` stamps the metadata with `created` first, so what it encodes is never empty. -/
theorem stamped_nonempty (m : Meta) (ts : Str) : upsert createdKey ts m ≠ [] := upsert_ne_nil createdKey ts m

/-- The written FILE, line by line (title comment, metadata comment, then whatever lines the csv writer produced, header row
first): the reader takes exactly the two leading comment lines for the header, recovers the metadata from them and hands
every other line, unchanged and in order, to the csv reader - also when a record begins with `#` (a term id such as `#X:1`)
or a quoted field continues on a line that begins with `#`. Only the first csv line (the header row, `term_a,...`) must not
begin with `#`. -/
theorem file_frame_round_trip (forb : List Nat) (htab : TableOk forb = true) (m : Meta) (hm : MetaOk forb m) (title : Str)
    (body : List Str) (hbody : body = [] ∨ ∃ h rest, body = h :: rest ∧ isComment h = false) :
    ∃ s, encodeMeta forb m = .ok s ∧ (unframe (frame title s body)).2 = body ∧
      parseMeta (unframe (frame title s body)).1 = .ok m :=
  Hpv.Sim.file_round_trip forb htab m hm title body hbody

/-- **The csv layer is lossless.** Whatever rows the writer is given - each with at least one field (the hypothesis is
not needed: rows without fields round-trip too); fields with any
characters, delimiters, quotes, CR, LF and CR LF included; any fields quoted beyond necessity (`force`) - the reader,
fed that text line by line (`events`: the characters, with the end-of-line event after every physical line), returns exactly
those rows. -/
theorem csv_round_trip (force : Nat → Nat → Bool) (rs : List (List Hpv.Csv.Str)) (hrs : ∀ r ∈ rs, r ≠ []) :
    Hpv.Csv.readAll (Hpv.Csv.writeRows force 0 rs) = .ok rs :=
  have _ := hrs -- not needed: a row without fields is written as CR LF and read back as `[]`
  Hpv.Csv.readAll_writeRows force rs

/-- **The csv layer of `from_csv` cannot fail.** Whatever a file holds, the reader's state machine - fed the text with the
end-of-line event wherever the library's handles end a physical line (`events`) - ends with a list of records; its one
error state is unreachable. (A caller's own text stream cut at other places is C16's matter.) -/
theorem csv_reader_total (text : Hpv.Csv.Str) : ∃ rs, Hpv.Csv.readAll text = .ok rs := by
  obtain ⟨q, hq⟩ := Hpv.Csv.run_events_ok text {} nofun
  exact ⟨Hpv.Csv.finish q, by rw [Hpv.Csv.readAll, hq]⟩

/-- **The written file, end to end**: title comment, metadata comment, then the physical lines of what the csv writer
produced for a header row (whose first column name begins with a character other than `#`) and any data rows. The reader's
header filter, `_parse_meta`, the csv reader (which cuts what the filter passes on into lines itself: the lines are joined
again, `.flatten`) and the `DictReader` layer together return the metadata and, for every data row in order, its values under
the column names - nothing lost, nothing added, whatever the term ids contain. -/
theorem file_round_trip (forb : List Nat) (htab : TableOk forb = true) (m : Meta) (hm : MetaOk forb m) (title : Str)
    (force : Nat → Nat → Bool) (c : Nat) (w : Str) (hs : List Str) (rows : List (List Str))
    (hc : c ≠ Hpv.Sim.hash) (hrs : ∀ r ∈ rows, r ≠ []) :
    ∃ s, encodeMeta forb m = .ok s ∧
      parseMeta (unframe (frame title s (Hpv.Csv.splitLines (Hpv.Csv.writeRows force 0 (((c :: w) :: hs) :: rows))))).1 = .ok m ∧
      Hpv.Csv.readDict (unframe (frame title s
          (Hpv.Csv.splitLines (Hpv.Csv.writeRows force 0 (((c :: w) :: hs) :: rows))))).2.flatten =
        .ok ((c :: w) :: hs, rows.map (fun r => ((c :: w) :: hs).zip r)) := by
  -- the text begins with a quote or with `c`, so the lines it is cut into (`flatten` undoes the cutting) begin with no comment
  have hne : (Hpv.Csv.writeRows force 0 (((c :: w) :: hs) :: rows)).head? ≠ some hash := fun e =>
    (Hpv.Csv.writeRows_head force c w hs rows e).elim (by decide) (Ne.symm hc)
  obtain ⟨s, h1, h2, h3⟩ := file_frame_round_trip forb htab m hm title _
    (not_comment_of_flatten (by rwa [Hpv.Csv.flatten_splitLines]))
  refine ⟨s, h1, h3, ?_⟩
  rw [h2, Hpv.Csv.flatten_splitLines]
  exact Hpv.Csv.readDict_writeRows force _ hrs

-- the column names `term_a`, `term_b`, `ic_mica`
def colA : Str := [116, 101, 114, 109, 95, 97]
def colB : Str := [116, 101, 114, 109, 95, 98]
def colV : Str := [105, 99, 95, 109, 105, 99, 97]
def headerRow : List Str := [colA, colB, colV]

/-- the data rows a writer hands to the csv writer for a list of items: `[left, right, str(value)]` each -/
def rowsOf (repr : Int → Str) (L : List (Str × Str × Int)) : List (List Str) := L.map (fun t => [t.1, t.2.1, repr t.2.2])

/-- the rows of today's `to_csv`: the listed items in `items()` order -/
def dataRows (repr : Int → Str) (s : State) : List (List Str) := rowsOf repr (items s)

/-- what `from_csv` does with one `DictReader` record: `(record['term_a'], record['term_b'], float(record['ic_mica']))` -/
def recordOp (parse : Str → Option Int) (rec : List (Str × Str)) : Option Op :=
  match lookup colA rec, lookup colB rec, (lookup colV rec).bind parse with
  | some a, some b, some v => some (Op.set a b v)
  | _, _, _ => none

/-- `from_csv` after the csv layer: every record becomes a `set_similarity` on a fresh container -/
def fromRecords (parse : Str → Option Int) (recs : List (List (Str × Str))) : Option State :=
  (recs.mapM (recordOp parse)).map run

theorem fromRecords_rows (repr : Int → Str) (parse : Str → Option Int) (hpr : ∀ v, parse (repr v) = some v)
    (L : List (Str × Str × Int)) :
    fromRecords parse ((rowsOf repr L).map (fun r => headerRow.zip r)) = some (run (L.map itemOp)) := by
  -- a written row read back under the header names gives the `set_similarity` of its item
  have hrow (t : Str × Str × Int) : recordOp parse (headerRow.zip [t.1, t.2.1, repr t.2.2]) = pure (itemOp t) := by
    unfold recordOp
    rw [show (lookup colV (headerRow.zip [t.1, t.2.1, repr t.2.2])).bind parse = some t.2.2 from hpr _]
    rfl
  rw [fromRecords, rowsOf, List.map_map, List.mapM_map]
  simp only [Function.comp_def, hrow, List.mapM_pure]
  rfl

/-- **`to_csv` then `from_csv`, from container to container.** For every history of the container, every metadata the
writer accepts, every way of writing a value that the reader's `float(...)` undoes (`parse (repr v) = some v`; for Python:
`float(repr(x)) == x`), every title line, any quoting beyond necessity and ANY ORDER in which the writer lists the items
(`L` is a rearrangement of `items()`): the file - title comment, metadata comment, the physical lines of the csv text for
the header row and one row per item - is read back (header filter, `_parse_meta`, csv state machine, `DictReader`, one
`set_similarity` per record) into a container that answers every read, in either key order, like the one that was
written, with the same metadata. Term ids may contain anything. -/
theorem container_file_round_trip (forb : List Nat) (htab : TableOk forb = true) (m : Meta) (hm : MetaOk forb m) (title : Str)
    (force : Nat → Nat → Bool) (repr : Int → Str) (parse : Str → Option Int) (hpr : ∀ v, parse (repr v) = some v)
    (ops : List Op) (L : List (Str × Str × Int)) (hperm : L.Perm (items (run ops))) :
    ∃ s recs st', encodeMeta forb m = .ok s ∧
      parseMeta (unframe (frame title s (Hpv.Csv.splitLines
        (Hpv.Csv.writeRows force 0 (headerRow :: rowsOf repr L))))).1 = .ok m ∧
      Hpv.Csv.readDict (unframe (frame title s (Hpv.Csv.splitLines
        (Hpv.Csv.writeRows force 0 (headerRow :: rowsOf repr L))))).2.flatten = .ok (headerRow, recs) ∧
      fromRecords parse recs = some st' ∧ ∀ x y, get st' x y = get (run ops) x y ∧ get st' x y = get st' y x := by
  have hrs : ∀ r ∈ rowsOf repr L, r ≠ [] := by
    intro r hr
    obtain ⟨t, _, rfl⟩ := List.mem_map.mp hr
    exact List.cons_ne_nil _ _
  -- `headerRow` is `colA :: [colB, colV]`, and `colA` (`term_a`) does not begin with `#`
  obtain ⟨s, h1, h2, h3⟩ := file_round_trip forb htab m hm title force (colA.head (by decide)) colA.tail [colB, colV]
    (rowsOf repr L) (by decide) hrs
  exact ⟨s, _, _, h1, h2, h3, fromRecords_rows repr parse hpr L,
    fun x y => ⟨rebuild_any_order (run ops) (wf_run ops) L hperm x y, get_comm _ x y⟩⟩

example : get (run [.set [2] [1] 5, .set [1] [2] (-1), .get [9] [9], .set [1] [1] 0]) [1] [2] = 5 := by decide +kernel
example : len (run [.set [2] [1] 5, .set [1] [2] 7, .set [1] [1] 0]) = 2 := by decide +kernel
example : TableOk [59, 61, 10, 13] = true := by decide +kernel
example : MetaOk [59, 61, 10, 13] [([97], [120, 32, 121]), ([98], [])] :=
  ⟨by decide +kernel, by decide +kernel, by decide +kernel⟩
example : decodeMeta [97, 61, 120, 59, 98, 61] = .ok [([97], [120]), ([98], [])] := rfl

-- a record line and a continuation line that begin with `#` are data once the header row has been seen
example : unframe (frame [116] [107, 61, 118] [[116, 10], [35, 88, 58, 49, 44, 72, 10], [35, 10]]) =
    ([[35, 116, 10], [35, 107, 61, 118, 10]], [[116, 10], [35, 88, 58, 49, 44, 72, 10], [35, 10]]) := rfl
example : parseMeta [[35, 116, 10], [35, 107, 61, 118, 13, 10]] = .ok [([107], [118])] := rfl

-- a value format and its inverse (decimal digits of a natural number; negative values never reach the file)
example : recordOp (fun s => if s = [53] then some 5 else none) (headerRow.zip [[65], [66], [53]]) = some (Op.set [65] [66] 5) := rfl
-- the csv layer on a row with a delimiter, a quote, a CR LF and a lone LF inside fields, and a row of one empty field
example : Hpv.Csv.writeMinimal [[[97, 44, 98], [34], [13, 10, 35], [10]], [[]]] =
    [34, 97, 44, 98, 34, 44, 34, 34, 34, 34, 44, 34, 13, 10, 35, 34, 44, 34, 10, 34, 13, 10, 34, 34, 13, 10] := by decide +kernel
example : Hpv.Csv.readAll (Hpv.Csv.writeMinimal [[[97, 44, 98], [34], [13, 10, 35], [10]], [[]]]) =
    .ok [[[97, 44, 98], [34], [13, 10, 35], [10]], [[]]] := rfl
-- hostile texts: a lone CR ends a record, a blank line is the record `[]`, an unterminated quoted field is flushed
example : Hpv.Csv.readAll [97, 13, 98, 10, 10, 34, 99] = .ok [[[97]], [[98]], [], [[99]]] := rfl

end Hpv.Props.C15
