/-
C12 — queries are pure: results independent of history and iterator interleaving.
Model: Hpv/Session.lean.  A lazily evaluated traversal is an explicit generator frame (`seen`, `buffer`); a session holds
any number of open frames over ONE immutable graph.  The theorems say that in this model nothing an operation does can be
seen by another iterator or by a later query.  Whether the CODE keeps all traversal state in the frame (and the factories
keep none between loads) is exactly what the correspondence run probes by interleaving real iterators, sharing one
factory between loads and running reader threads; pre-emptive switches inside a bytecode are not exhibited (partial).
-/
import Hpv.Session

namespace Hpv.Props.C12
open Hpv Hpv.Session

/-- stepping a frame to the end yields what the loop yields from the same `seen` set and buffer with the same fuel -/
theorem drain_eq_loop (P : Pop) (succ : Nat → List Nat) :
    ∀ fuel (s : IterState) (out res : List Nat), loop P succ fuel s.seen s.buf out = some res →
      res = out ++ drain P succ fuel s := by
  intro fuel ⟨seen, buf⟩ out res
  fun_induction loop P succ fuel seen buf out with
  | case1 => nofun
  | case2 fuel seen buf out hp => intro h; cases h; rw [drain, next, hp, List.append_nil]
  | case3 fuel seen buf out cur buf' hp sb ih => intro h; rw [ih h, drain, next, hp, List.append_assoc]; rfl

/-- the two failure branches of `nxt` (no such frame, frame exhausted) are one: `none` of `(iters[j]?).bind next` -/
theorem step_nxt (P : Pop) (succ : Nat → List Nat) (n : Nat) (s : Sess) (j : Nat) :
    step P succ n s (.nxt j) = match (s.iters[j]?).bind (next P succ) with
      | none => ⟨s.iters, s.out ++ [(none, [])]⟩
      | some (x, it') => ⟨s.iters.set j it', s.out ++ [(some x, [])]⟩ := by
  dsimp only [step]
  cases s.iters[j]? with
  | none => rfl
  | some it => simp only [Option.bind_some]; cases next P succ it <;> rfl

/-- **Frame**: an operation changes at most the frame it addresses; `opn` and `eval` change no existing frame. -/
theorem step_frame (P : Pop) (succ : Nat → List Nat) (n : Nat) (s : Sess) (op : Op) (j : Nat) (hj : j < s.iters.length) :
    (∀ i, op = .nxt i → i ≠ j → (step P succ n s op).iters[j]? = s.iters[j]?) ∧
    (∀ src, op = .opn src → (step P succ n s op).iters[j]? = s.iters[j]?) ∧
    (∀ src, op = .eval src → (step P succ n s op).iters[j]? = s.iters[j]?) := by
  refine ⟨fun i hop hij => ?_, fun src hop => ?_, fun src hop => hop ▸ rfl⟩
  · rw [hop, step_nxt]
    cases (s.iters[i]?).bind (next P succ) with
    | none => rfl
    | some p => exact List.getElem?_set_ne hij
  · rw [hop]; exact List.getElem?_append_left hj

/-- **Non-interference (per step)**: what `nxt j` yields and the frame it leaves depend only on frame `j`. -/
theorem next_local (P : Pop) (succ : Nat → List Nat) (n : Nat) (s s' : Sess) (j : Nat) (h : s.iters[j]? = s'.iters[j]?) :
    ((step P succ n s (.nxt j)).out.getLast?.map (·.1)) = ((step P succ n s' (.nxt j)).out.getLast?.map (·.1)) ∧
    (step P succ n s (.nxt j)).iters[j]? = (step P succ n s' (.nxt j)).iters[j]? := by
  rw [step_nxt, step_nxt, ← h]
  cases (s.iters[j]?).bind (next P succ) with
  | none => exact ⟨by rw [List.getLast?_concat, List.getLast?_concat], h⟩
  | some p => exact ⟨by rw [List.getLast?_concat, List.getLast?_concat],
      by rw [List.getElem?_set_self', List.getElem?_set_self', h]⟩

/-- **A complete query is a function of the graph and its argument only**: whatever ops ran before, whatever frames
are open, `eval src` appends the standalone result. -/
theorem eval_history_free (P : Pop) (succ : Nat → List Nat) (n : Nat) (s s' : Sess) (src : Nat) :
    (step P succ n s (.eval src)).out.getLast? = (step P succ n s' (.eval src)).out.getLast? ∧
    (step P succ n s (.eval src)).iters = s.iters := by
  simp only [step, List.getLast?_concat, and_self]

/-- loading has no factory state in the model: the result of a load is a function of the document alone -/
theorem load_history_free {Doc Onto : Type} (load : Unit → Doc → Onto) (h h' : Unit) (d : Doc) : load h d = load h' d := by
  cases h; cases h'; rfl

-- non-vacuity: two interleaved ancestor iterators over the diamond 3 -> {1, 2} -> 0, plus a complete query in between
def exSucc : Nat → List Nat := fun i => if i = 3 then [1, 2] else if i = 1 ∨ i = 2 then [0] else []
example : (run popStack exSucc 4 [.opn 3, .opn 3, .nxt 0, .eval 3, .nxt 1, .nxt 0, .nxt 1, .nxt 0, .nxt 0]).out.map (·.1) =
    [none, none, some 2, none, some 2, some 0, some 0, some 1, none] := by decide +kernel
example : drain popStack exSucc 10 (start exSucc 3) = [2, 0, 1] := by decide +kernel

end Hpv.Props.C12
