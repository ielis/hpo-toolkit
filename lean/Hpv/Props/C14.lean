/-
C14 — unknown nodes and bad indices are rejected, never silently answered.
Model: Hpv/GraphModel.lean (node API of both graph classes, index API of the indexed graph).  An argument that
`_map_to_term_id` rejects (wrong type, `None`, a string without ':' and '_' — see C04.parse_iff) is `none`.
-/
import Hpv.Props.C01

namespace Hpv.Props.C14
open Hpv.Graph Hpv.GM

variable {κ : Type} [DecidableEq κ]

/-- **Indexed graph, unknown node** (anywhere in the sort order): traversals and the leaf test raise ValueError,
predicates raise for an unknown object and answer False for an unknown subject, membership is False, no index. -/
theorem indexed_unknown_node (o : Graph.Ord κ) (hs : o.Strict) (g : IGraph κ) (hsorted : Sorted o g.nodes)
    (v known : κ) (hv : v ∉ g.nodes) (hk : known ∈ g.nodes) (q : Q) (incl : Bool) (p : Pred) :
    g.query o q (some v) incl = .error .valueError ∧
    g.isLeaf o (some v) = .error .valueError ∧
    g.pred o p (some known) (some v) = .error .valueError ∧
    g.pred o p (some v) (some known) = .ok false ∧
    g.contains o v = false ∧
    g.nodeToIdx o v = none := by
  have hnone : g.nodeToIdx o v = none := (indexOf?_none hs hsorted).mpr hv
  obtain ⟨i, _, (hsome : g.nodeToIdx o known = some i)⟩ := exists_indexOf? hs hsorted hk
  refine ⟨?_, ?_, ?_, ?_, ?_, hnone⟩
  · simp only [IGraph.query, hnone]
  · simp only [IGraph.isLeaf, hnone]
  · simp only [IGraph.pred, hnone]
  · simp only [IGraph.pred, hnone, hsome]
  · simp only [IGraph.contains, hnone, Option.isSome_none]

/-- **Matrix graphs, unknown node**: traversals, the leaf test and predicates with the unknown node as object raise
ValueError; membership is False. -/
theorem matrix_unknown_node (o : Graph.Ord κ) (hs : o.Strict) (g : MGraph κ) (hsorted : Sorted o g.nodes)
    (v known : κ) (hv : v ∉ g.nodes) (q : Q) (incl : Bool) (p : Pred) :
    g.query o q (some v) incl = .error .valueError ∧
    g.isLeaf o (some v) = .error .valueError ∧
    g.pred o p (some known) (some v) = .error .valueError ∧
    g.contains o v = false := by
  have hnone : indexOf? o g.nodes v = none := (indexOf?_none hs hsorted).mpr hv
  have hq : ∀ q incl, g.query o q (some v) incl = .error .valueError := fun q incl => by simp only [MGraph.query, hnone]
  refine ⟨hq q incl, ?_, ?_, ?_⟩
  · simp only [MGraph.isLeaf, hq, Except.map]
  · simp only [MGraph.pred, hq, Except.map]
  · simp only [MGraph.contains, hnone, Option.isSome_none]

/-- an unknown *subject* is simply not found among the (well-defined) answers for a known object -/
theorem matrix_unknown_subject (o : Graph.Ord κ) (g : MGraph κ) (v known : κ) (p : Pred) (res : List κ)
    (hres : g.query o (predQ p) (some known) false = .ok res) (hv : v ∉ res) :
    g.pred o p (some v) (some known) = .ok false := by
  simp only [MGraph.pred, hres, Except.map, any_eq_decide_mem, decide_eq_false hv]

/-- the node arrays of all three factories are sorted, so `indexed_unknown_node` and `matrix_unknown_node` apply to
every shipped graph -/
theorem factories_sorted (o : Graph.Ord κ) (hs : o.Strict) (owl : κ) (E : List (Edge κ)) :
    (∀ g, buildIncremental o owl E = .ok g → Sorted o g.nodes) ∧
    (∀ g, buildBuilder o owl E = .ok g → Sorted o g.nodes) ∧
    (∀ g, buildIndexed o owl E = .ok g → Sorted o g.nodes) := by
  -- by the branches of each factory: `cases hg` closes the failing ones, the successful one stores `nodesOf` of the rooted edge list
  refine ⟨fun g => ?_, fun g => ?_, fun g => ?_⟩
  · fun_cases buildIncremental o owl E <;> intro hg <;> cases hg
    exact sorted_sortDedup o hs _
  · fun_cases buildBuilder o owl E <;> intro hg <;> cases hg
    exact sorted_sortDedup o hs _
  · fun_cases buildIndexed o owl E <;> intro hg <;> cases hg
    next E' _ ig hig _ _ =>
    revert hig
    fun_cases Indexed.build o E' <;> intro hig <;> cases hig
    exact sorted_sortDedup o hs _

/-- **Bad arguments** (neither CURIE string, TermId nor identified object; non-CURIE strings) raise ValueError in every
query method of both graph classes and of the module-level helpers. -/
theorem bad_argument (o : Graph.Ord κ) (ig : IGraph κ) (mg : MGraph κ) (gg : G κ) (q : Q) (incl : Bool) (p : Pred)
    (other : Option κ) :
    ig.query o q none incl = .error .valueError ∧ ig.isLeaf o none = .error .valueError ∧
    ig.pred o p other none = .error .valueError ∧
    mg.query o q none incl = .error .valueError ∧ mg.isLeaf o none = .error .valueError ∧
    mg.pred o p other none = .error .valueError ∧ mg.pred o p none other = .error .valueError ∧
    helper o gg q none incl = .error .valueError ∧ existsPath o gg none other = .error .valueError := by
  refine ⟨rfl, rfl, rfl, rfl, rfl, ?_, ?_, rfl, rfl⟩
  · cases other <;> rfl
  · cases other <;> rfl

/-- a bad *subject* of an indexed-graph predicate raises as well, once the object is a node -/
theorem indexed_bad_subject (o : Graph.Ord κ) (hs : o.Strict) (g : IGraph κ) (hsorted : Sorted o g.nodes) (known : κ)
    (hk : known ∈ g.nodes) (p : Pred) : g.pred o p none (some known) = .error .valueError := by
  obtain ⟨i, _, (hsome : g.nodeToIdx o known = some i)⟩ := exists_indexOf? hs hsorted hk
  simp only [IGraph.pred, hsome]

/-- **Bad indices**: every index outside `0..n-1`, negative ones included, raises ValueError in the four `*_idx`
traversals, in `idx_to_node`, and in the `is_*_of_idx` predicates for the index they dereference (the object for
parent/ancestor, the subject for child/descendant). -/
theorem bad_index (g : IGraph κ) (hc : g.children.indptr.length = g.nodes.length + 1)
    (hp : g.parents.indptr.length = g.nodes.length + 1) (i j : Int) (hi : i < 0 ∨ (g.nodes.length : Int) ≤ i) (q : Q) :
    g.queryIdx q i = .error .valueError ∧ g.idxToNode i = .error .valueError ∧
    g.predIdx .parentOf j i = .error .valueError ∧ g.predIdx .ancestorOf j i = .error .valueError ∧
    g.predIdx .childOf i j = .error .valueError ∧ g.predIdx .descendantOf i j = .error .valueError := by
  have h1 := outgoing_bad hc hi
  have h2 := outgoing_bad hp hi
  -- a traversal asks for the row of its source first
  have h3 : g.ancestorIdx i = .error .valueError := by simp only [IGraph.ancestorIdx, traverseIdx, h2]
  have h4 : g.descendantIdx i = .error .valueError := by simp only [IGraph.descendantIdx, traverseIdx, h1]
  refine ⟨?_, ?_, ?_, ?_, ?_, ?_⟩
  · cases q
    · exact h1
    · exact h2
    · exact h3
    · exact h4
  · simp only [IGraph.idxToNode, hi, if_true]
  · simp only [IGraph.predIdx, IGraph.parentsIdx, h2, Except.map]
  · simp only [IGraph.predIdx, h3, Except.map]
  · simp only [IGraph.predIdx, IGraph.parentsIdx, h2, Except.map]
  · simp only [IGraph.predIdx, h3, Except.map]

/-- the built indexed graph satisfies the size hypotheses of `bad_index` -/
theorem bad_index_applies {o : Graph.Ord κ} {owl : κ} {E : List (Edge κ)} {root : κ} {E' : List (Edge κ)} {g : IGraph κ}
    (h : BuiltIx o owl E root E' g) :
    g.children.indptr.length = g.nodes.length + 1 ∧ g.parents.indptr.length = g.nodes.length + 1 ∧ Sorted o g.nodes :=
  ⟨h.indptr_length .children, h.indptr_length .parents, h.sorted⟩

-- non-vacuity: a concrete graph, an absent id between two nodes, an index one past the end
open Hpv.Props.C01.Example in
example : diamondGraph.query natOrd .ancestors (some 5) false = .error .valueError ∧
    diamondGraph.queryIdx .children 4 = .error .valueError ∧ diamondGraph.idxToNode (-1) = .error .valueError ∧
    diamondGraph.nodes = [1, 2, 3, 9] := by
  rw [diamondGraph, buildIndexed_diamond]
  decide +kernel

end Hpv.Props.C14
