/-
C11 — validators report exactly the rule violations and never alter their input.
Model: Hpv/Validate.lean.  `prim o f` is the item after replacing its id by the current term's primary id (C06).
Hypothesis `Known`: every item's id is known to the ontology (the property's own quantifier).
-/
import Hpv.ValidateProofs

namespace Hpv.Props.C11
open Hpv.Validate

variable {κ : Type} [DecidableEq κ]

/-- The annotation-propagation validator reports an error for `(d, a)` exactly when some item has (primary) id `d`,
`a` is a strict ancestor of `d` at any distance, some item has (primary) id `a`, and the descendant is present or the
ancestor item is excluded (i.e. present-descendant with any ancestor, or excluded/excluded); it reports nothing else. -/
theorem propagation_exact (o : Onto κ) (items : List (Feature κ)) (hk : Known o items) :
    ∃ rs, propagation o items = .ok rs ∧
      (∀ r ∈ rs, r.level = .error ∧ r.category = .propagation) ∧
      ∀ d a, (⟨.error, .propagation, [d, a]⟩ : Result κ) ∈ rs ↔
        ∃ f ∈ items.map (prim o), f.id = d ∧ a ∈ o.strictAnc d ∧
          ∃ g ∈ items.map (prim o), g.id = a ∧ (f.present = true ∨ g.present = false) := by
  refine ⟨_, by rw [propagation, allSome_primaryFeat hk], ?_⟩
  generalize items.map (prim o) = feats
  refine ⟨fun r hr => ?_, fun d a => ?_⟩
  · obtain ⟨f, _, a, _, rfl⟩ := (mem_propResults o feats r).mp hr
    exact ⟨rfl, rfl⟩
  · rw [mem_propResults]
    constructor
    · rintro ⟨f, hf, a', ha', h⟩
      cases h
      exact ⟨f, hf, rfl, (mem_offending o feats f a).mp ha'⟩
    · rintro ⟨f, hf, rfl, ha⟩
      exact ⟨f, hf, a, (mem_offending o feats f a).mpr ha, rfl⟩

/-- The obsolete-id validator warns exactly for the items whose given id differs from the primary id of their current
term (i.e. items using an alternate id), in item order. -/
theorem obsolete_exact (o : Onto κ) (items : List (Feature κ)) (hk : Known o items) :
    obsoleteIds o items = .ok ((items.filter (fun f => (prim o f).id ≠ f.id)).map
      (fun f => ⟨.warning, .obsolete, [f.id, (prim o f).id]⟩)) := by
  rw [obsoleteIds, allSome_primaryFeat hk]
  dsimp only
  rw [← List.map_prod_left_eq_zip, List.flatMap_map]
  exact congrArg _ (flatMap_eq_filter_map fun f _ => by simp only [decide_eq_true_eq])

/-- The phenotypic-abnormality validator warns exactly for the items that are not STRICT descendants of Phenotypic
abnormality (so Phenotypic abnormality itself warns), in item order. -/
theorem abnormality_exact (o : Onto κ) (pa : κ) (items : List (Feature κ)) (hk : Known o items) :
    abnormality o pa items = .ok ((items.filter (fun f => !(o.strictAnc (prim o f).id).contains pa)).map
      (fun f => ⟨.warning, .abnormality, [(prim o f).id, pa]⟩)) := by
  refine congrArg _ (flatMap_eq_filter_map fun f hf => ?_)
  have : ((o.strictAnc (prim o f).id).any fun anc => decide (pa = anc)) = (o.strictAnc (prim o f).id).contains pa :=
    List.any_beq
  rw [abnStep, primaryFeat_of_known (hk f hf)]
  dsimp only
  rw [this]
  cases (o.strictAnc (prim o f).id).contains pa <;> rfl

/-- The runner reports the concatenation of its validators' findings; `is_ok` holds exactly when nothing was reported. -/
theorem runner (o : Onto κ) (pa : κ) (vs : List Validator) (items : List (Feature κ)) (hk : Known o items) :
    validateAll o pa vs items = .ok (vs.flatMap (resultsOf o pa items)) ∧
    ∀ rs : List (Result κ), isOk rs = true ↔ rs = [] := by
  refine ⟨runner_spec ?_, fun _ => List.isEmpty_iff⟩
  intro v _
  cases v with
  | propagation => obtain ⟨rs, h, _⟩ := propagation_exact o items hk; exact ⟨rs, h⟩
  | abnormality => exact ⟨_, abnormality_exact o pa items hk⟩
  | obsolete => exact ⟨_, obsolete_exact o items hk⟩

/-- Validating never changes the caller's items: the validators only allocate copies and only assign to those copies. -/
theorem caller_items_untouched (o : Onto κ) (heap : Heap κ) (n : Nat) : (heapAfter o heap n).take heap.length = heap :=
  (List.prefix_iff_eq_take.mp (heapAfter_prefix o heap n)).symm

-- non-vacuity: chain 3 -> 2 -> 1 (= PA); id 9 is an alternate id of 3
def exOnto : Onto Nat := ⟨fun k => if k = 9 then some 3 else if k ≤ 4 then some k else none,
  fun k => if k = 3 then [2, 1] else if k = 2 then [1] else []⟩

example : Known exOnto [⟨9, true⟩, ⟨2, false⟩, ⟨1, true⟩] := by
  intro f hf; simp at hf; rcases hf with rfl | rfl | rfl <;> decide

example : validateAll exOnto 1 [.propagation, .abnormality, .obsolete] [⟨9, true⟩, ⟨2, false⟩, ⟨1, true⟩] =
    .ok [⟨.error, .propagation, [3, 2]⟩, ⟨.error, .propagation, [3, 1]⟩, ⟨.warning, .abnormality, [1, 1]⟩,
         ⟨.warning, .obsolete, [9, 3]⟩] := by rfl

example : heapAfter exOnto [⟨9, true⟩, ⟨2, false⟩] 2 = [⟨9, true⟩, ⟨2, false⟩, ⟨3, true⟩, ⟨2, false⟩] := by rfl

end Hpv.Props.C11
