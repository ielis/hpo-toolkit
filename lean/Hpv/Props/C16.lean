/-
C16 — readers and writers treat paths, gzip paths and open streams alike.
Model: Hpv/Io.lean: the isinstance chain of the two dispatchers over MEASURED class facts (the check measures, on the
running interpreter, the facts of a concrete instance of every source kind and evaluates `FactsFit` / `dispatchRead` /
`dispatchWrite` in the compiled model), and the text each accepted source yields (`decode`, `gzip`, `gunzip` are parameters).
`io`, `gzip`, `open` themselves are exercised by the correspondence run (the full product of kinds x readers/writers).
-/
import Hpv.Io

namespace Hpv.Props.C16
open Hpv.Io

/-- the two dispatchers differ on URLs only, which fit no kind -/
theorem dispatch_eq (k : Kind) (f : Facts) (h : FactsFit k f = true) :
    dispatchRead f = expectedRead k ∧ dispatchWrite f = expectedRead k := by
  cases k <;> simp only [FactsFit, Bool.and_eq_true, Bool.not_eq_true'] at h <;>
    simp only [dispatchRead, dispatchWrite, expectedRead, h, if_true, if_false, Bool.false_eq_true, and_self]

/-- Every listed kind whose measured facts fit is accepted in the way the property requires, by the reading and by the
writing dispatcher; every other kind is rejected (ValueError).  (URLs are out of scope.) -/
theorem dispatch_table (k : Kind) (f : Facts) (h : FactsFit k f = true) :
    dispatchRead f = expectedRead k ∧ (k ≠ .other → dispatchWrite f = expectedRead k) ∧
    (k = .other → dispatchWrite f = .reject) :=
  have ⟨hr, hw⟩ := dispatch_eq k f h
  ⟨hr, fun _ => hw, fun hk => hw.trans (congrArg expectedRead hk)⟩

/-- the facts measured today for a plain path, a `.gz` path, a text file (`io.TextIOBase`), a binary file
(`io.BufferedIOBase`) and an object that is none of these fit their kinds; nothing real is an instance of the `typing` stubs
(StringIO and gzip text streams measure like the text file, BytesIO and GzipFile like the binary file) -/
theorem todays_facts_fit :
    FactsFit .path ⟨true, false, false, false, false, false, false, false⟩ = true ∧
    FactsFit .gzPath ⟨true, false, false, false, false, false, true, false⟩ = true ∧
    FactsFit .textFile ⟨false, false, false, false, false, true, false, false⟩ = true ∧
    FactsFit .binaryFile ⟨false, false, true, false, false, false, false, false⟩ = true ∧
    FactsFit .other ⟨false, false, false, false, false, false, false, false⟩ = true := by decide

/-- **Uniformity**: whatever accepted kind carries the content `b`, the reader parses `decode b` — provided
`gunzip (gzip b) = b`. -/
theorem same_text {Bytes Text : Type} (decode : Bytes → Text) (gzip gunzip : Bytes → Bytes)
    (hz : ∀ b, gunzip (gzip b) = b) (k : Kind) (hk : k ≠ .other) (b : Bytes) :
    readText decode gunzip (expectedRead k) (materialise decode gzip k b) = some (decode b) := by
  cases k
  case gzPath => exact congrArg (fun x => some (decode x)) (hz b)
  case other => exact absurd rfl hk
  all_goals rfl

/-- for a parser `parse`, two accepted kinds of source that carry the same content give the same loaded object (every
reader of the library - ontology loaders, HPOA loader, CSV reader - opens its source through `dispatchRead`) -/
theorem same_result {Bytes Text Obj : Type} (decode : Bytes → Text) (gzip gunzip : Bytes → Bytes) (parse : Text → Obj)
    (hz : ∀ b, gunzip (gzip b) = b) (k k' : Kind) (hk : k ≠ .other) (hk' : k' ≠ .other) (b : Bytes) :
    (readText decode gunzip (expectedRead k) (materialise decode gzip k b)).map parse =
    (readText decode gunzip (expectedRead k') (materialise decode gzip k' b)).map parse := by
  rw [same_text decode gzip gunzip hz k hk b, same_text decode gzip gunzip hz k' hk' b]

/-- what a writer leaves behind for a target of an accepted kind when it writes the text `t`: the bytes of a file (behind a
path or a binary stream) or the characters handed to a caller's text stream -/
inductive Written (Bytes Text : Type)
  | fileBytes (b : Bytes)
  | streamText (t : Text)

/-- `open_text_io_handle_for_writing` followed by the writes: a plain path and a binary stream receive the encoded text, a
`.gz` path its compressed form, a caller's text stream the text itself -/
def writeText {Bytes Text : Type} (encode : Text → Bytes) (gzip : Bytes → Bytes) (o : Outcome) (t : Text) : Option (Written Bytes Text) :=
  match o with
  | .openPath => some (.fileBytes (encode t))
  | .openGzPath => some (.fileBytes (gzip (encode t)))
  | .wrapBinary => some (.fileBytes (encode t))
  | .passText => some (.streamText t)
  | .openUrl => none
  | .reject => none

/-- the content of what was written, read the way the matching reader reads it -/
def contentOf {Bytes Text : Type} (decode : Bytes → Text) (gunzip : Bytes → Bytes) (k : Kind) : Written Bytes Text → Text
  | .fileBytes b => if k = .gzPath then decode (gunzip b) else decode b
  | .streamText t => t

/-- **Writers produce the same content for every accepted kind of target**: whatever the kind - path, `.gz` path, text or
binary stream (for gzip STREAMS the caller's stream object does the compressing) - the content that lands is the text that
was written, given that decoding undoes encoding and gunzip undoes gzip. -/
theorem same_content_written {Bytes Text : Type} (encode : Text → Bytes) (decode : Bytes → Text) (gzip gunzip : Bytes → Bytes)
    (hc : ∀ t, decode (encode t) = t) (hz : ∀ b, gunzip (gzip b) = b) (k : Kind) (hk : k ≠ .other) (t : Text) :
    ∃ w, writeText encode gzip (expectedRead k) t = some w ∧ contentOf decode gunzip k w = t := by
  cases k
  case gzPath => exact ⟨_, rfl, (congrArg decode (hz _)).trans (hc t)⟩
  case other => exact absurd rfl hk
  case textFile | stringIO | gzipText => exact ⟨_, rfl, rfl⟩
  all_goals exact ⟨_, rfl, hc t⟩

/-- and what one kind of target received reads back, through any accepted kind of source, as the same object -/
theorem write_then_read {Bytes Text Obj : Type} (encode : Text → Bytes) (decode : Bytes → Text) (gzip gunzip : Bytes → Bytes)
    (parse : Text → Obj) (hc : ∀ t, decode (encode t) = t) (hz : ∀ b, gunzip (gzip b) = b) (k k' : Kind) (hk : k ≠ .other)
    (hk' : k' ≠ .other) (t : Text) :
    ∃ w, writeText encode gzip (expectedRead k) t = some w ∧
      (readText decode gunzip (expectedRead k') (materialise decode gzip k' (encode (contentOf decode gunzip k w)))).map parse =
        some (parse t) := by
  obtain ⟨w, hw, hcont⟩ := same_content_written encode decode gzip gunzip hc hz k hk t
  refine ⟨w, hw, ?_⟩
  rw [hcont, same_text decode gzip gunzip hz k' hk' (encode t), hc]
  rfl

end Hpv.Props.C16
