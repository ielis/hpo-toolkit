/-
C05 — Obographs loading is faithful to the document.
Model: Hpv/Obo.lean (`_load_impl` up to the graph factory and `create_(minimal_)ontology`, which are C01/C02 and C06).
Regex recognisers (`purlCurie`, `dateOf`, `parseSynType`) are executable definitions compared with the compiled patterns
of the running code on every run; the theorems below do not depend on what they compute.
Hypotheses are the property's "well-formed document": `FactoryOk` (alternate ids / xrefs of retained nodes are CURIEs,
definitions carry text — otherwise the real loader raises) and distinct CURIE keys among retained nodes.
`termIdOf` (on `String`) and C04's `TermId.fromCurie` (on code-point lists) both model `TermId.from_curie`; no theorem relates
them (each is tied to the code by the correspondence run), so nothing proved in C04 is used here.
-/
import Hpv.OboProofs

namespace Hpv.Props.C05
open Hpv.Obo

/-- **Terms.** The loaded terms are the terms of the kept nodes, in document order, and the current terms are the non-deprecated
ones. `kept_spec` and `ignored_nodes` say which nodes are kept (exactly the CLASS nodes with an OBO PURL in a requested prefix)
and what their terms carry: the identifier, label (empty when absent), alternate ids and obsoletion flag (the VALUE of
`deprecated`) stated in the document. -/
theorem terms_spec (L : Loader) (P : List String) (doc : Doc) (hok : FactoryOk L P doc.nodes) :
    ∃ l, load L P doc = .ok l ∧
      l.allTerms = (doc.nodes.filterMap (keptOf L P)).map (·.2) ∧
      l.current = ((doc.nodes.filterMap (keptOf L P)).map (·.2)).filter (fun t => !t.obsolete) ∧
      l.version = extractVersion doc.mta ∧
      l.edges = createEdgeList ((doc.nodes.filterMap (keptOf L P)).map (·.1)) doc.edges :=
  ⟨_, load_eq hok, rfl, rfl, rfl, rfl⟩

/-- what a kept node contributes: it is a CLASS node with a PURL whose prefix is requested, and its term has the
document's identifier / label / alternate ids / `deprecated` value -/
theorem kept_spec (L : Loader) (P : List String) (n : NodeJ) (w : String) (tid : String × String) (t : Term)
    (h : keptOf L P n = some ((w, tid), t)) :
    n.type = some "CLASS" ∧ purlCurie n.id = some w ∧ termIdOf w = some tid ∧ P.contains tid.1 = true ∧
    t.id = tid ∧ t.name = n.lbl.getD "" ∧ t.obsolete = isDeprecated n.mta ∧ altIds n.mta = some t.alts := by
  obtain ⟨hr, hm⟩ := keptOf_eq_some.mp h
  obtain ⟨h1, h2, h3, h4⟩ := retained_eq_some.mp hr
  obtain ⟨c1, c2, c3, c4, _⟩ := mkTerm_ok hm
  exact ⟨h1, h2, h3, h4, c1, c2, c3, c4⟩

/-- **What the full ontology carries in addition**: for a node kept by the FULL loader, the term's definition (text and
its cross-references), comment (the document's comments joined by ", "), synonyms (each parsed into name, scope, type
and cross-references - `parseSynonym`, incl. the ORCID form) and cross-references are exactly those stated in the
node's `meta`; absent parts are `none`, a node without `meta` has none of them. -/
theorem full_content_spec (P : List String) (n : NodeJ) (w : String) (tid : String × String) (t : Term)
    (h : keptOf .full P n = some ((w, tid), t)) :
    match n.mta with
    | none => t.definition = none ∧ t.comment = none ∧ t.synonyms = none ∧ t.xrefs = none
    | some mj =>
      t.definition = mj.definition.bind (fun d => d.val.map (fun v => (v, d.xrefs))) ∧
      t.comment = (if mj.comments.isEmpty then none else some (", ".intercalate mj.comments)) ∧
      t.synonyms = (if mj.synonyms.isEmpty then none else some (mj.synonyms.map parseSynonym)) ∧
      (if mj.xrefs.isEmpty then t.xrefs = none
       else ∃ l, mapM' xrefTid mj.xrefs = some l ∧ t.xrefs = some l) :=
  (mkTerm_ok (keptOf_eq_some.mp h).2).2.2.2.2 rfl

/-- a node that is not a CLASS node, has no OBO PURL, or a foreign prefix contributes nothing — whatever else it carries -/
theorem ignored_nodes (L : Loader) (P : List String) (n : NodeJ)
    (h : n.type ≠ some "CLASS" ∨ purlCurie n.id = none ∨
         (∀ w tid, purlCurie n.id = some w → termIdOf w = some tid → P.contains tid.1 = false)) :
    keptOf L P n = none := by
  cases hk : keptOf L P n with
  | none => rfl
  | some p =>
    obtain ⟨⟨w, tid⟩, t⟩ := p
    obtain ⟨h1, h2, h3, h4, _⟩ := kept_spec L P n w tid t hk
    rcases h with h | h | h
    · exact absurd h1 h
    · rw [h2] at h; cases h
    · rw [h w tid h2 h3] at h4; cases h4

/-- **Hierarchy.** With distinct CURIE keys among the retained nodes, the edge list contains exactly the `is_a` edges
whose subject and object are retained nodes (deprecated ones included); every other predicate, dangling edge and
foreign prefix is ignored. -/
theorem edges_spec (L : Loader) (P : List String) (doc : Doc) (hok : FactoryOk L P doc.nodes)
    (hnd : (((doc.nodes.filterMap (keptOf L P)).map (·.1)).map (·.1)).Nodup) (l : Loaded) (hl : load L P doc = .ok l)
    (e : (String × String) × (String × String)) :
    e ∈ l.edges ↔ ∃ ej ∈ doc.edges, ej.pred = "is_a" ∧ ∃ sc oc, purlCurie ej.sub = some sc ∧ purlCurie ej.obj = some oc ∧
      (sc, e.1) ∈ (doc.nodes.filterMap (keptOf L P)).map (·.1) ∧ (oc, e.2) ∈ (doc.nodes.filterMap (keptOf L P)).map (·.1) := by
  cases (load_eq hok).symm.trans hl
  simp only [createEdgeList, List.mem_filterMap, edgeOf_eq_some, lookupLast_of_nodup hnd]

/-- **Version**: the release date inside `meta.version`, otherwise the value of the `…#versionInfo` property. -/
theorem version_spec (v : String) (bs : Option (List Bpv)) (bl : List Bpv) :
    extractVersion ⟨some v, bs⟩ = dateOf v ∧
    extractVersion ⟨none, some bl⟩ = ((bl.filter (fun b => match b.pred, b.val with
        | some p, some _ => p.endsWith "#versionInfo"
        | _, _ => false)).head?).bind (·.val) ∧
    extractVersion ⟨none, none⟩ = none := ⟨rfl, rfl, rfl⟩

/-- **Minimal and full loader agree** on every retained node's identifier, name, alternate ids and obsoletion flag, on
the set of retained nodes, hence on the hierarchy and the version. -/
theorem minimal_full_agree (P : List String) (doc : Doc)
    (hmin : FactoryOk .minimal P doc.nodes) (hfull : FactoryOk .full P doc.nodes) :
    ∃ lm lf, load .minimal P doc = .ok lm ∧ load .full P doc = .ok lf ∧
      lm.allTerms.map Term.core = lf.allTerms.map Term.core ∧ lm.edges = lf.edges ∧ lm.version = lf.version := by
  have ⟨k1, k2⟩ := kept_min_full hmin hfull
  exact ⟨_, _, load_eq hmin, load_eq hfull, k2, congrArg (createEdgeList · doc.edges) k1, rfl⟩

/-- **Order of nodes and edges does not matter**: permuting them permutes the loaded terms and — with distinct CURIE
keys — the produced edge list. -/
theorem order_irrelevant (L : Loader) (P : List String) (doc doc' : Doc)
    (hok : FactoryOk L P doc.nodes) (hn : doc.nodes.Perm doc'.nodes) (he : doc.edges.Perm doc'.edges) (hm : doc.mta = doc'.mta)
    (hnd : (((doc.nodes.filterMap (keptOf L P)).map (·.1)).map (·.1)).Nodup) :
    ∃ l l', load L P doc = .ok l ∧ load L P doc' = .ok l' ∧ l.allTerms.Perm l'.allTerms ∧ l.current.Perm l'.current ∧
      l.edges.Perm l'.edges ∧ l.version = l'.version := by
  have hok' : FactoryOk L P doc'.nodes := fun n hn' => hok n (hn.symm.subset hn')
  have hk : (doc.nodes.filterMap (keptOf L P)).Perm (doc'.nodes.filterMap (keptOf L P)) := hn.filterMap _
  exact ⟨_, _, load_eq hok, load_eq hok', hk.map _, (hk.map _).filter _,
    createEdgeList_perm (hk.map _) hnd he, congrArg extractVersion hm⟩

-- non-vacuity: a document with a CLASS node (deprecated: false), a deprecated CLASS node, a PROPERTY node, a foreign
-- prefix, a non-PURL id, an is_a edge, a part_of edge and a dangling edge
def exDoc : Doc :=
  { nodes := [ { id := "http://purl.obolibrary.org/obo/HP_0000001", lbl := some "All", type := some "CLASS" },
               { id := "http://purl.obolibrary.org/obo/HP_0000118", lbl := some "PA", type := some "CLASS",
                 mta := some { deprecated := some false, bpvs := [⟨some "http://x#hasAlternativeId", some "HP:0000999"⟩] } },
               { id := "http://purl.obolibrary.org/obo/HP_0000002", type := some "CLASS", mta := some { deprecated := some true } },
               { id := "http://purl.obolibrary.org/obo/HP_0000003", lbl := some "p", type := some "PROPERTY" },
               { id := "http://purl.obolibrary.org/obo/MONDO_0000001", lbl := some "m", type := some "CLASS" },
               { id := "http://example.org/HP_0000004", lbl := some "x", type := some "CLASS" } ],
    edges := [ ⟨"http://purl.obolibrary.org/obo/HP_0000118", "is_a", "http://purl.obolibrary.org/obo/HP_0000001"⟩,
               ⟨"http://purl.obolibrary.org/obo/HP_0000118", "part_of", "http://purl.obolibrary.org/obo/HP_0000002"⟩,
               ⟨"http://purl.obolibrary.org/obo/HP_0000118", "is_a", "http://purl.obolibrary.org/obo/MONDO_0000001"⟩ ],
    mta := { version := some "http://purl.obolibrary.org/obo/hp/releases/2024-04-26/hp.json" } }

-- evaluated by the compiled code at build time (`String` functions do not reduce in the kernel): a test, not a theorem
#guard (match load .minimal ["HP"] exDoc with
    | .ok l => (l.current.map (fun t => curieValue t.id), l.allTerms.length, l.edges.map (fun e => (curieValue e.1, curieValue e.2)), l.version)
    | .error _ => ([], 0, [], none)) ==
    (["HP:0000001", "HP:0000118"], 3, [("HP:0000118", "HP:0000001")], some "2024-04-26")
#guard (match load .full ["HP", "MONDO"] exDoc with
    | .ok l => (l.current.length, l.edges.length)
    | .error _ => (0, 0)) == (3, 2)

end Hpv.Props.C05
