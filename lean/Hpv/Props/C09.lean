/-
C09 — information content equals -log of the propagated annotation frequency.
Model: Hpv/Ic.lean (`calculate_ic_for_annotated_items`): the Counter after the nested loops, the module filter on the
annotation AND on each ancestor, the pseudocount pass (the population count is a `lookupCount` at the root, taken by the
driver).  `anc t` is the ancestor list including `t` (C01: duplicate-free and equal to the reflexive-transitive closure,
hence closed under taking ancestors); `mod` is the module set.  Real-number layer (Mathlib): Hpv/IcReal.lean.  Floats /
math.log are not modelled (tolerance 1e-9 in the tie).
-/
import Hpv.IcProofs
import Hpv.IcReal

namespace Hpv.Props.C09
open Hpv.Ic

variable {κ : Type} [DecidableEq κ]

/-- c(t) counts the present annotations (inside the module) to `t` or to any of its descendants, once each;
terms outside the module are never counted. -/
theorem count_spec (anc : κ → List κ) (mod : Option (List κ)) (items : List (List (κ × Bool))) (t : κ)
    (hnd : ∀ a, (anc a).Nodup) :
    (increments anc mod (presentIds items)).count t =
      if inModule mod t then ((presentIds items).filter (inModule mod)).countP (fun a => decide (t ∈ anc a)) else 0 :=
  count_increments mod (presentIds items) t hnd

/-- The final table: c(t) when positive, raised to 1 for every corpus term when pseudocounts are requested, absent
otherwise — so never-annotated terms are absent unless pseudocounts are on; keys = terms with a positive final count. -/
theorem table_spec (anc : κ → List κ) (mod : Option (List κ)) (univ : List κ) (pseudo : Bool)
    (items : List (List (κ × Bool))) (t : κ) :
    lookupCount (counts anc mod univ pseudo items) t =
      (if 0 < (increments anc mod (presentIds items)).count t then (increments anc mod (presentIds items)).count t
       else if pseudo = true ∧ t ∈ corpus mod univ then 1 else 0) ∧
    (t ∈ (counts anc mod univ pseudo items).map (·.1) ↔ 0 < lookupCount (counts anc mod univ pseudo items) t) := by
  rw [counts_eq]
  exact ⟨lookupCount_final _ _ pseudo t, (lookupCount_pos_iff (final_pos _ _ pseudo) t).symm⟩

/-- Counts never decrease from a term to its ancestors (inside the module), also after the pseudocount pass. -/
theorem monotone (anc : κ → List κ) (mod : Option (List κ)) (univ : List κ) (pseudo : Bool)
    (items : List (List (κ × Bool))) (t t' : κ)
    (hnd : ∀ a, (anc a).Nodup) (hclosed : ∀ a x y, x ∈ anc a → y ∈ anc x → y ∈ anc a)
    (hanc : t' ∈ anc t) (hm' : inModule mod t' = true) (hu : pseudo = true → t ∈ corpus mod univ → t' ∈ corpus mod univ) :
    lookupCount (counts anc mod univ pseudo items) t ≤ lookupCount (counts anc mod univ pseudo items) t' := by
  rw [(table_spec anc mod univ pseudo items t).1, (table_spec anc mod univ pseudo items t').1]
  exact count_or_pseudo_mono (count_monotone _ hnd hclosed hanc hm') fun h => ⟨h.1, hu h.1 h.2⟩

/-- Excluded annotations and the order of items do not matter. -/
theorem irrelevant (anc : κ → List κ) (mod : Option (List κ)) (items items' : List (List (κ × Bool))) (t : κ) :
    presentIds (items.map (fun anns => anns.filter (·.2))) = presentIds items ∧
    (items.Perm items' → (increments anc mod (presentIds items)).count t = (increments anc mod (presentIds items')).count t) :=
  ⟨by simp only [presentIds, List.flatMap_map, List.filter_filter, Bool.and_self],
    fun h => (((h.flatMap_right _).filter _).flatMap_right _).count_eq t⟩

/-- **Consequences in ℝ** for counts `0 < c ≤ c' ≤ p` and any base `b > 1` (`math.log` is base `e > 1`):
the (module) root has IC 0, no IC is negative, and IC never decreases from a term to its descendants. -/
theorem ic_real (b : ℝ) (hb : 1 < b) (c c' p : ℕ) (hc : 0 < c) (hcc : c ≤ c') (hcp : c' ≤ p) :
    icOf b p p = 0 ∧ 0 ≤ icOf b c p ∧ icOf b c' p ≤ icOf b c p ∧ (1 : ℝ) < Real.exp 1 :=
  have hp : 0 < p := Nat.lt_of_lt_of_le hc (Nat.le_trans hcc hcp)
  ⟨icOf_root b hp, icOf_nonneg hb hc (Nat.le_trans hcc hcp), icOf_antitone hb hc hcc hp,
    Real.one_lt_exp_iff.mpr one_pos⟩

-- non-vacuity: chain 3 -> 2 -> 1 (root), annotations: item A {3 present, 2 excluded}, item B {2 present}
def exAnc : Nat → List Nat := fun t => if t = 3 then [3, 2, 1] else if t = 2 then [2, 1] else [t]
example : counts exAnc none [1, 2, 3, 4] false [[(3, true), (2, false)], [(2, true)]] = [(3, 1), (2, 2), (1, 2)] := by decide +kernel
example : counts exAnc none [1, 2, 3, 4] true [[(3, true)]] = [(3, 1), (2, 1), (1, 1), (4, 1)] := by decide +kernel
example : counts exAnc (some [2, 3]) [1, 2, 3, 4] false [[(3, true)], [(1, true)]] = [(3, 1), (2, 1)] := by decide +kernel
example : (∀ a, (exAnc a).Nodup) := by
  intro a; unfold exAnc; split
  · decide
  · split
    · decide
    · simp

end Hpv.Props.C09
