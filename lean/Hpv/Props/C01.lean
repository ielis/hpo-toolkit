/-
C01 — ancestor/descendant queries equal the transitive closure of the is_a edges.
Model: Hpv/GraphModel.lean.  For a graph of the default factory (`BuiltIx`: CsrIndexedGraphFactory / CsrIndexedOntologyGraph,
the one every loader uses) the four queries are characterised through the whole pipeline, from the edge list to the labels.
For the builder-based and the incremental factory the same is stated end to end on every acyclic rooted edge list
(`builder_factory_exact`, `incremental_factory_exact`, `matrix_factories_include_source`).
-/
import Hpv.MatrixFactoryProofs

namespace Hpv.Props.C01
open Hpv.Graph Hpv.Csr Hpv.Indexed Hpv.GM

variable {κ : Type} [DecidableEq κ]
variable {o : Graph.Ord κ} {owl : κ} {E : List (Edge κ)} {root : κ} {E' : List (Edge κ)} {g : IGraph κ}

/-- `a is_a b` in the rooted edge list -/
def IsA (E' : List (Edge κ)) (a b : κ) : Prop := (a, b) ∈ E'

/-- The parent query returns exactly the node's direct is_a objects (in edge order), each exactly once. -/
theorem parents_exact (h : BuiltIx o owl E root E' g) (v : κ) (hv : v ∈ g.nodes) :
    g.query o .parents (some v) false = .ok ((E'.filter (fun e => decide (e.1 = v))).map (·.2)) ∧
    ((E'.filter (fun e => decide (e.1 = v))).map (·.2)).Nodup ∧
    ∀ x, x ∈ (E'.filter (fun e => decide (e.1 = v))).map (·.2) ↔ IsA E' v x :=
  h.direct_exact .parents rfl hv

/-- The child query returns exactly the node's direct is_a subjects, each exactly once. -/
theorem children_exact (h : BuiltIx o owl E root E' g) (v : κ) (hv : v ∈ g.nodes) :
    g.query o .children (some v) false = .ok ((E'.filter (fun e => decide (e.2 = v))).map (·.1)) ∧
    ((E'.filter (fun e => decide (e.2 = v))).map (·.1)).Nodup ∧
    ∀ x, x ∈ (E'.filter (fun e => decide (e.2 = v))).map (·.1) ↔ IsA E' x v :=
  h.direct_exact .children rfl hv

/-- The ancestor query returns exactly the nodes reachable over one or more is_a edges upward, each exactly once. -/
theorem ancestors_closure (h : BuiltIx o owl E root E' g) (v : κ) (hv : v ∈ g.nodes) :
    ∃ res, g.query o .ancestors (some v) false = .ok res ∧ res.Nodup ∧
      ∀ x, x ∈ res ↔ Relation.TransGen (IsA E') v x := by
  obtain ⟨res, hq, hnd, hm⟩ := h.query_spec .ancestors hv
  exact ⟨res, hq false, hnd, hm⟩

/-- The descendant query returns exactly the nodes reachable over one or more is_a edges downward, each exactly once. -/
theorem descendants_closure (h : BuiltIx o owl E root E' g) (v : κ) (hv : v ∈ g.nodes) :
    ∃ res, g.query o .descendants (some v) false = .ok res ∧ res.Nodup ∧
      ∀ x, x ∈ res ↔ Relation.TransGen (fun a b => IsA E' b a) v x := by
  obtain ⟨res, hq, hnd, hm⟩ := h.query_spec .descendants hv
  exact ⟨res, hq false, hnd, hm⟩

/-- Asking to include the source adds the source itself, once, in front, and nothing else — for all four queries. -/
theorem include_source (h : BuiltIx o owl E root E' g) (q : Q) (v : κ) (hv : v ∈ g.nodes) :
    ∃ res, g.query o q (some v) false = .ok res ∧ g.query o q (some v) true = .ok (v :: res) := by
  obtain ⟨res, hq, _⟩ := h.query_spec q hv
  exact ⟨res, hq false, hq true⟩

/-- On an acyclic hierarchy the source is not among its own ancestors / descendants / parents / children. -/
theorem source_once (h : BuiltIx o owl E root E' g) (hacyc : ∀ x, ¬ Relation.TransGen (IsA E') x x)
    (v : κ) (hv : v ∈ g.nodes) :
    (∀ res, g.query o .ancestors (some v) false = .ok res → v ∉ res) ∧
    (∀ res, g.query o .descendants (some v) false = .ok res → v ∉ res) ∧
    (∀ res, g.query o .parents (some v) false = .ok res → v ∉ res) ∧
    (∀ res, g.query o .children (some v) false = .ok res → v ∉ res) := by
  -- the answer to each query relates the source to its members; on an acyclic hierarchy no node is so related to itself
  have key : ∀ q res, g.query o q (some v) false = .ok res → v ∉ res := fun q res hres hin => by
    obtain ⟨res', hq, _, hm⟩ := h.query_spec q hv
    cases (hq false).symm.trans hres
    exact (GM.simple_of_acyclic hacyc).2.2 q v ((hm v).mp hin)
  exact ⟨key .ancestors, key .descendants, key .parents, key .children⟩

/-- Acyclicity rules out self-loops and two-cycles. -/
theorem acyclic_simple (hacyc : ∀ x, ¬ Relation.TransGen (IsA E') x x) :
    (∀ e ∈ E', e.1 ≠ e.2) ∧ (∀ a b, (a, b) ∈ E' → (b, a) ∉ E') :=
  ⟨(GM.simple_of_acyclic hacyc).1, (GM.simple_of_acyclic hacyc).2.1⟩

/-- **Builder-based factory, end to end** (edge list → `CsrMatrixBuilder` assignments → CSR matrix → `col_indices_of_val`
→ worklist → labels): on every acyclic rooted edge list the factory succeeds and all four queries of the resulting
graph return exactly the direct relatives / the transitive closure, each node once. -/
theorem builder_factory_exact (hs : o.Strict) (hroot : findRoot owl (dedup E) = .ok (root, E'))
    (hacyc : ∀ x, ¬ Relation.TransGen (IsA E') x x) :
    ∃ g, buildBuilder o owl E = .ok g ∧ g.root = root ∧ ∀ v ∈ g.nodes,
      (∃ res, g.query o .parents (some v) false = .ok res ∧ res.Nodup ∧ ∀ x, x ∈ res ↔ IsA E' v x) ∧
      (∃ res, g.query o .children (some v) false = .ok res ∧ res.Nodup ∧ ∀ x, x ∈ res ↔ IsA E' x v) ∧
      (∃ res, g.query o .ancestors (some v) false = .ok res ∧ res.Nodup ∧
        ∀ x, x ∈ res ↔ Relation.TransGen (IsA E') v x) ∧
      (∃ res, g.query o .descendants (some v) false = .ok res ∧ res.Nodup ∧
        ∀ x, x ∈ res ↔ Relation.TransGen (fun a b => IsA E' b a) v x) := by
  obtain ⟨hloop, h2⟩ := acyclic_simple hacyc
  obtain ⟨g, hg, hr, _, hrep⟩ := builder_represents hs hroot hloop h2
  exact ⟨g, hg, hr, fun v hv => ⟨(hrep.direct hs v hv).1, (hrep.direct hs v hv).2, hrep.closure hs v hv⟩⟩

/-- **Incremental factory, end to end** (edge list → per-node adjacency with the last-subject cache →
`_preprocess_edges` → per-row `sorted` → index lookups → CSR arrays → `col_indices_of_val` → worklist → labels): on
every acyclic rooted edge list the factory succeeds and all four queries return exactly the direct relatives / the
transitive closure, each node once. -/
theorem incremental_factory_exact (hs : o.Strict) (hroot : findRoot owl (dedup E) = .ok (root, E'))
    (hacyc : ∀ x, ¬ Relation.TransGen (IsA E') x x) :
    ∃ g, buildIncremental o owl E = .ok g ∧ g.root = root ∧ ∀ v ∈ g.nodes,
      (∃ res, g.query o .parents (some v) false = .ok res ∧ res.Nodup ∧ ∀ x, x ∈ res ↔ IsA E' v x) ∧
      (∃ res, g.query o .children (some v) false = .ok res ∧ res.Nodup ∧ ∀ x, x ∈ res ↔ IsA E' x v) ∧
      (∃ res, g.query o .ancestors (some v) false = .ok res ∧ res.Nodup ∧
        ∀ x, x ∈ res ↔ Relation.TransGen (IsA E') v x) ∧
      (∃ res, g.query o .descendants (some v) false = .ok res ∧ res.Nodup ∧
        ∀ x, x ∈ res ↔ Relation.TransGen (fun a b => IsA E' b a) v x) := by
  obtain ⟨hloop, h2⟩ := acyclic_simple hacyc
  obtain ⟨g, hg, hr, _, hrep⟩ := incremental_represents hs hroot hloop h2
  exact ⟨g, hg, hr, fun v hv => ⟨(hrep.direct hs v hv).1, (hrep.direct hs v hv).2, hrep.closure hs v hv⟩⟩

/-- **`include_source` on the two matrix-backed factories**: on every acyclic rooted edge list, for all four queries,
asking to include the source adds the source itself, exactly once, and nothing else. -/
theorem matrix_factories_include_source (hs : o.Strict) (hroot : findRoot owl (dedup E) = .ok (root, E'))
    (hacyc : ∀ x, ¬ Relation.TransGen (IsA E') x x) :
    ∃ gi gb, buildIncremental o owl E = .ok gi ∧ buildBuilder o owl E = .ok gb ∧
      ∀ (mg : MGraph κ), (mg = gi ∨ mg = gb) → ∀ (q : Q) (v : κ), v ∈ mg.nodes →
        ∃ res res', mg.query o q (some v) false = .ok res ∧ mg.query o q (some v) true = .ok res' ∧
          res'.Nodup ∧ ∀ x, x ∈ res' ↔ x = v ∨ x ∈ res := by
  obtain ⟨hloop, h2⟩ := acyclic_simple hacyc
  obtain ⟨gi, hgi, _, _, hrepi⟩ := incremental_represents hs hroot hloop h2
  obtain ⟨gb, hgb, _, _, hrepb⟩ := builder_represents hs hroot hloop h2
  refine ⟨gi, gb, hgi, hgb, ?_⟩
  rintro mg (rfl | rfl) q v hv
  · exact hrepi.include_source hs hloop q v hv
  · exact hrepb.include_source hs hloop q v hv

end Hpv.Props.C01

/-! ### non-vacuity: the hypotheses are met by concrete graphs (keys `Nat` under `<`, `owl:Thing` = 0) -/
namespace Hpv.Props.C01.Example
open Hpv.Graph Hpv.GM

def natOrd : Graph.Ord Nat := ⟨fun a b => decide (a < b)⟩

theorem natOrd_strict : natOrd.Strict where
  irrefl a := decide_eq_false (Nat.lt_irrefl a)
  trans _ _ _ h1 h2 := decide_eq_true (Nat.lt_trans (of_decide_eq_true h1) (of_decide_eq_true h2))
  total a b := (Nat.lt_trichotomy a b).imp decide_eq_true (Or.imp_right decide_eq_true)

-- so that the kernel alone decides the equalities between evaluated model results in the examples (`decide +kernel`)
deriving instance DecidableEq for Except
deriving instance DecidableEq for Hpv.Csr.Static
deriving instance DecidableEq for IGraph

/-- a diamond with a multi-parent leaf, labels sorting in reverse topological order -/
def diamond : List (Edge Nat) := [(3, 9), (2, 9), (1, 3), (1, 2), (3, 9)]

def diamondGraph : IGraph Nat :=
  match buildIndexed natOrd 0 diamond with
  | .ok g => g
  | .error _ => ⟨0, [], ⟨[], []⟩, ⟨[], []⟩⟩

/-- the factory evaluated once; the examples read the arrays off this literal instead of building the graph again -/
theorem buildIndexed_diamond : buildIndexed natOrd 0 diamond =
    .ok ⟨3, [1, 2, 3, 9], ⟨[0, 0, 1, 2, 4], [0, 0, 2, 1]⟩, ⟨[0, 2, 3, 4, 4], [2, 1, 3, 3]⟩⟩ := by decide +kernel

example : BuiltIx natOrd 0 diamond 9 [(3, 9), (2, 9), (1, 3), (1, 2)] diamondGraph where
  strict := natOrd_strict
  hroot := by decide +kernel
  hloop := by decide
  hg := by rw [diamondGraph, buildIndexed_diamond]

example : diamondGraph.query natOrd .ancestors (some 1) true = .ok [1, 2, 9, 3] := by rw [diamondGraph, buildIndexed_diamond]; decide +kernel
example : diamondGraph.query natOrd .children (some 9) false = .ok [3, 2] := by rw [diamondGraph, buildIndexed_diamond]; decide +kernel

/-- a two-root forest: the synthetic root (key 0) is added with exactly the parentless terms as children -/
def forest : List (Edge Nat) := [(5, 4), (7, 6)]

def forestGraph : IGraph Nat :=
  match buildIndexed natOrd 0 forest with
  | .ok g => g
  | .error _ => ⟨0, [], ⟨[], []⟩, ⟨[], []⟩⟩

theorem buildIndexed_forest : buildIndexed natOrd 0 forest =
    .ok ⟨0, [0, 4, 5, 6, 7], ⟨[0, 2, 3, 3, 4, 4], [1, 3, 2, 4]⟩, ⟨[0, 0, 1, 2, 3, 4], [0, 1, 0, 3]⟩⟩ := by decide +kernel

example : BuiltIx natOrd 0 forest 0 [(5, 4), (7, 6), (4, 0), (6, 0)] forestGraph where
  strict := natOrd_strict
  hroot := by decide +kernel
  hloop := by decide
  hg := by rw [forestGraph, buildIndexed_forest]

example : forestGraph.query natOrd .descendants (some 0) false = .ok [6, 7, 4, 5] := by rw [forestGraph, buildIndexed_forest]; decide +kernel

/-- the builder factory on the diamond: root finding succeeds with root 9, and the ancestors of the leaf are as `builder_factory_exact` says -/
example : findRoot 0 (dedup diamond) = .ok (9, [(3, 9), (2, 9), (1, 3), (1, 2)]) := by decide +kernel
example : (match buildBuilder natOrd 0 diamond with
    | .ok g => g.query natOrd .ancestors (some 1) false
    | .error e => .error e) = .ok [2, 3, 9] := by decide +kernel

example : (match buildIncremental natOrd 0 diamond with
    | .ok g => g.query natOrd .descendants (some 9) false
    | .error e => .error e) = .ok [2, 3, 1] := by decide +kernel

example : (match buildIncremental natOrd 0 diamond with
    | .ok g => g.query natOrd .ancestors (some 1) true
    | .error e => .error e) = .ok [1, 2, 3, 9] := by decide +kernel

end Hpv.Props.C01.Example
