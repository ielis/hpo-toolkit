/-
C02 — graph construction depends only on the edge set; the root is unique or owl:Thing.
Model: `findRoot`, `dedup`, `nodesOf` and the three factories behind `GM.build` (Hpv/GraphModel.lean).  `root_top`, `factory_total`,
`structure_all_factories` and `invariance_all_factories` rest on "finite + acyclic ⇒ a parentless ancestor" (`exists_parentless_ancestor` in
Hpv/RootProofs.lean) through `findRoot_total` and `reaches_root`.
Outside the domain `OwlOk` (several parentless terms AND `owl:Thing` among the edges) the real code fails (self-loop
owl:Thing → owl:Thing) — recorded as an open known finding, see DESIGN.md.
-/
import Hpv.Props.C01

namespace Hpv.Props.C02
open Hpv.Graph Hpv.Csr Hpv.Indexed Hpv.GM Hpv.Props.C01 Relation

variable {κ : Type} [DecidableEq κ]
variable {o : Graph.Ord κ} {owl : κ} {E : List (Edge κ)} {root : κ} {E' : List (Edge κ)} {g : IGraph κ}

/-- the domain condition on `owl:Thing`: it is not mentioned in the edges, unless no synthetic root is needed -/
def OwlOk (owl : κ) (E : List (Edge κ)) : Prop := 2 ≤ (candidates (dedup E)).length → owl ∉ endpoints E

theorem owlOk_of_fresh (h : owl ∉ endpoints E) : OwlOk owl E := fun _ => h

/-- **Nodes.** The graph contains exactly the terms mentioned in the edges, each once, in ascending order, plus the
synthetic root exactly when at least two terms have no parent. -/
theorem nodes_spec (h : BuiltIx o owl E root E' g) :
    Sorted o g.nodes ∧ g.nodes.Nodup ∧
    ∀ x, x ∈ g.nodes ↔ x ∈ endpoints E ∨ (x = owl ∧ 2 ≤ (candidates (dedup E)).length) :=
  ⟨h.sorted, h.nodes_nodup, fun x => h.nodes_eq ▸ mem_nodesOf_rooted o h.hroot x⟩

/-- **Root.** The root is the single parentless term, or — when several terms have no parent — the added
`owl:Thing`, whose children are exactly the parentless terms; the root is a node and has no parents. -/
theorem root_spec (h : BuiltIx o owl E root E' g) (howl : OwlOk owl E) :
    ((candidates (dedup E) = [root]) ∨
     (2 ≤ (candidates (dedup E)).length ∧ root = owl ∧
       ∃ res, g.query o .children (some owl) false = .ok res ∧ res.Nodup ∧ ∀ x, x ∈ res ↔ Parentless (dedup E) x)) ∧
    G.root (.ix g) = .ok root ∧ root ∈ g.nodes ∧
    g.query o .parents (some root) false = .ok [] := by
  have hrootmem : root ∈ g.nodes := List.mem_of_getElem? h.root_idx
  refine ⟨?_, g.idxToNode_ok h.root_idx, hrootmem, ?_⟩
  · rcases findRoot_spec h.hroot with ⟨h1, _⟩ | ⟨h2, rfl, _⟩
    · exact .inl h1
    · obtain ⟨res, hq, hnd, hmem⟩ := h.query_spec .children hrootmem
      refine .inr ⟨h2, rfl, res, hq false, hnd, fun x => (hmem x).trans ?_⟩
      -- the edges into the fresh `owl:Thing` are the synthetic ones
      show (x, root) ∈ E' ↔ _
      rw [findRoot_mem h.hroot]
      exact ⟨fun hx => hx.elim (fun h1 => absurd (mem_endpoints.mpr ⟨_, (mem_dedup E _).mp h1, .inr rfl⟩) (howl h2))
        fun hp => hp.2.2, fun hp => .inr ⟨h2, rfl, hp⟩⟩
  · obtain ⟨res, hq, _, hmem⟩ := h.query_spec .parents hrootmem
    rw [hq false, List.eq_nil_iff_forall_not_mem.mpr fun x hx => root_not_subject h.hroot howl _ ((hmem x).mp hx) rfl]
    rfl

/-- On the property's domain the rooted edge list of an acyclic edge list is acyclic and free of self-loops: the hypotheses
`hacyc` / `hloop` of the graph theorems follow from acyclicity of the INPUT. -/
theorem acyclic_rooted (hroot : findRoot owl (dedup E) = .ok (root, E')) (howl : OwlOk owl E)
    (hacyc : ∀ x, ¬ TransGen (fun a b => (a, b) ∈ E) x x) :
    (∀ x, ¬ TransGen (IsA E') x x) ∧ ∀ e ∈ E', e.1 ≠ e.2 :=
  have hac := GM.acyclic_rooted hroot howl hacyc
  ⟨hac, (GM.simple_of_acyclic hac).1⟩

/-- **Every other node is a descendant of the root** (finite + acyclic ⇒ every upward walk ends, and it can only
end in the root). -/
theorem root_top (h : BuiltIx o owl E root E' g) (hacyc : ∀ x, ¬ TransGen (IsA E') x x)
    (v : κ) (hv : v ∈ g.nodes) (hne : v ≠ root) :
    TransGen (IsA E') v root ∧
    ∃ res, g.query o .ancestors (some v) false = .ok res ∧ root ∈ res := by
  have hreach := reaches_root o h.hroot hacyc (h.nodes_eq ▸ hv) hne
  obtain ⟨res, hq, _, hmem⟩ := h.query_spec .ancestors hv
  exact ⟨hreach, res, hq false, (hmem root).mpr hreach⟩

/-- **The factory is total on the property's domain**: every acyclic edge list with at least one edge that
satisfies `OwlOk` is built successfully (so the `BuiltIx` hypothesis of all graph theorems is never vacuous). -/
theorem factory_total (o : Graph.Ord κ) (hs : o.Strict) (owl : κ) (E : List (Edge κ)) (hne : E ≠ [])
    (howl : OwlOk owl E) (hacyc : ∀ x, ¬ TransGen (fun a b => (a, b) ∈ E) x x) :
    ∃ root E' g, BuiltIx o owl E root E' g := by
  obtain ⟨root, E', hroot⟩ := findRoot_total owl hne hacyc
  have hloop := (acyclic_rooted hroot howl hacyc).2
  obtain ⟨_, _, hg⟩ := buildIndexed_spec hs hroot hloop
  exact ⟨root, E', _, hs, hroot, hloop, hg⟩

theorem sorted_ext (o : Graph.Ord κ) (hs : o.Strict) (l1 l2 : List κ) (h1 : Sorted o l1) (h2 : Sorted o l2)
    (hmem : ∀ x, x ∈ l1 ↔ x ∈ l2) : l1 = l2 :=
  Sorted.ext hs h1 h2 hmem

/-- **Invariance.**  Two edge lists with the same edge SET (any permutation, any multiset of repeats) give the same
node list, the same root, and — for every query and every node — the same answer up to order. -/
theorem invariance {E₁ E₂ : List (Edge κ)} {root₁ root₂ : κ} {E₁' E₂' : List (Edge κ)} {g₁ g₂ : IGraph κ}
    (h₁ : BuiltIx o owl E₁ root₁ E₁' g₁) (h₂ : BuiltIx o owl E₂ root₂ E₂' g₂) (hE : ∀ e, e ∈ E₁ ↔ e ∈ E₂) :
    g₁.nodes = g₂.nodes ∧ root₁ = root₂ ∧ (∀ e, e ∈ E₁' ↔ e ∈ E₂') ∧
    ∀ (q : Q) (v : κ) (incl : Bool), v ∈ g₁.nodes →
      ∃ r₁ r₂, g₁.query o q (some v) incl = .ok r₁ ∧ g₂.query o q (some v) incl = .ok r₂ ∧ r₁.Perm r₂ := by
  obtain ⟨hroot, hE'⟩ := rooted_congr (fun e => by rw [mem_dedup, mem_dedup, hE]) h₁.hroot h₂.hroot
  have hnodes : g₁.nodes = g₂.nodes := by rw [h₁.nodes_eq, h₂.nodes_eq, nodesOf_congr o h₁.strict hE']
  refine ⟨hnodes, hroot, hE', fun q v incl hv => ?_⟩
  obtain ⟨r₁, q1, n1, m1⟩ := h₁.query_spec q hv
  obtain ⟨r₂, q2, n2, m2⟩ := h₂.query_spec q (hnodes ▸ hv)
  exact ⟨_, _, q1 incl, q2 incl, .append_left _ ((List.perm_ext_iff_of_nodup n1 n2).mpr fun x => by
    rw [m1, m2, Q.answer_congr hE'])⟩

/-- **Totality and invariance for ALL THREE factories.**  On the property's domain (non-empty acyclic edge list
satisfying `OwlOk`) every shipped factory succeeds, and two lists with the same edge SET (any permutation, any
multiset of repeats) give - for each factory - the same node array, the same root and, for every query, every node
and both values of `include_source`, the same answer up to order. -/
theorem invariance_all_factories (hs : o.Strict) {E₁ E₂ : List (Edge κ)} (hne : E₁ ≠ []) (howl : OwlOk owl E₁)
    (hacyc : ∀ x, ¬ TransGen (fun a b => (a, b) ∈ E₁) x x) (hE : ∀ e, e ∈ E₁ ↔ e ∈ E₂) (f : Factory) :
    ∃ G₁ G₂, GM.build o owl f E₁ = .ok G₁ ∧ GM.build o owl f E₂ = .ok G₂ ∧ G₁.nodes = G₂.nodes ∧ G₁.root = G₂.root ∧
      ∀ (q : Q) (v : κ) (incl : Bool), v ∈ G₁.nodes →
        ∃ r₁ r₂, G₁.query o q (some v) incl = .ok r₁ ∧ G₂.query o q (some v) incl = .ok r₂ ∧ r₁.Perm r₂ := by
  -- the second list is in the domain as well
  have hne₂ : E₂ ≠ [] := by
    obtain ⟨e, he⟩ := List.exists_mem_of_ne_nil E₁ hne
    exact List.ne_nil_of_mem ((hE e).mp he)
  have hacyc₂ : ∀ x, ¬ TransGen (fun a b => (a, b) ∈ E₂) x x := fun x hx =>
    hacyc x ((transGen_congr fun a b => hE (a, b)).mpr hx)
  obtain ⟨root₁, E₁', hroot₁⟩ := findRoot_total owl hne hacyc
  obtain ⟨root₂, E₂', hroot₂⟩ := findRoot_total owl hne₂ hacyc₂
  obtain ⟨rfl, hE'⟩ := rooted_congr (fun e => by rw [mem_dedup, mem_dedup, hE]) hroot₁ hroot₂
  -- the rooted lists have the same edges, so the second is acyclic as the first is
  have hac₁ := GM.acyclic_rooted hroot₁ howl hacyc
  obtain ⟨G₁, hG₁, hn₁, hr₁, hq₁⟩ := factories_spec hs hroot₁ hac₁ f
  obtain ⟨G₂, hG₂, hn₂, hr₂, hq₂⟩ := factories_spec hs hroot₂
    (fun x hx => hac₁ x ((transGen_congr fun a b => hE' (a, b)).mpr hx)) f
  have hnodes : G₁.nodes = G₂.nodes := by rw [hn₁, hn₂, nodesOf_congr o hs hE']
  refine ⟨G₁, G₂, hG₁, hG₂, hnodes, hr₁.trans hr₂.symm, fun q v incl hv => ?_⟩
  obtain ⟨r₁, q1, n1, m1, r₁', q1', p1⟩ := hq₁ q v hv
  obtain ⟨r₂, q2, n2, m2, r₂', q2', p2⟩ := hq₂ q v (hnodes ▸ hv)
  have hperm : r₁.Perm r₂ := (List.perm_ext_iff_of_nodup n1 n2).mpr fun x => by rw [m1, m2, Q.answer_congr hE']
  cases incl
  · exact ⟨r₁, r₂, q1, q2, hperm⟩
  · exact ⟨r₁', r₂', q1', q2', p1.trans ((hperm.cons v).trans p2.symm)⟩

/-- **The structural clauses for ALL THREE factories**: on the property's domain every factory succeeds with the node
set "endpoints, plus `owl:Thing` exactly when several terms are parentless", each node once; the root is the single
parentless term or `owl:Thing`; the root has no parents and every other node has the root among its ancestors and is
among the root's descendants. -/
theorem structure_all_factories (hs : o.Strict) (hne : E ≠ []) (howl : OwlOk owl E)
    (hacyc : ∀ x, ¬ TransGen (fun a b => (a, b) ∈ E) x x) (f : Factory) :
    ∃ G root, GM.build o owl f E = .ok G ∧ G.root = .ok root ∧ root ∈ G.nodes ∧ G.nodes.Nodup ∧
      (∀ x, x ∈ G.nodes ↔ x ∈ endpoints E ∨ (x = owl ∧ 2 ≤ (candidates (dedup E)).length)) ∧
      (candidates (dedup E) = [root] ∨ (2 ≤ (candidates (dedup E)).length ∧ root = owl)) ∧
      G.query o .parents (some root) false = .ok [] ∧
      ∀ v ∈ G.nodes, v ≠ root →
        (∃ r, G.query o .ancestors (some v) false = .ok r ∧ root ∈ r) ∧
        (∃ r, G.query o .descendants (some root) false = .ok r ∧ v ∈ r) := by
  obtain ⟨root, E', hroot⟩ := findRoot_total owl hne hacyc
  have hac := GM.acyclic_rooted hroot howl hacyc
  obtain ⟨G, hG, hn, hr, hq⟩ := factories_spec hs hroot hac f
  have hrootmem : root ∈ G.nodes := hn ▸ root_mem_nodesOf o hroot
  refine ⟨G, root, hG, hr, hrootmem, hn ▸ Sorted.nodup o hs _ (sorted_sortDedup o hs _),
    fun x => hn ▸ mem_nodesOf_rooted o hroot x, ?_, ?_, fun v hv hvr => ?_⟩
  · exact (findRoot_spec hroot).imp And.left fun h2 => ⟨h2.1, h2.2.1⟩
  · obtain ⟨res, hres, _, hmem, _⟩ := hq .parents root hrootmem
    rw [hres, List.eq_nil_iff_forall_not_mem.mpr fun x hx => root_not_subject hroot howl _ ((hmem x).mp hx) rfl]
  · -- an upward path from `v` to the root is a downward path from the root to `v`
    have hreach := reaches_root o hroot hac (hn ▸ hv) hvr
    obtain ⟨ra, hqa, _, hma, _⟩ := hq .ancestors v hv
    obtain ⟨rd, hqd, _, hmd, _⟩ := hq .descendants root hrootmem
    exact ⟨⟨ra, hqa, (hma root).mpr hreach⟩, ⟨rd, hqd, (hmd v).mpr (transGen_swap.mpr hreach)⟩⟩

-- non-vacuity: the two-root forest of C01.Example meets every hypothesis used above
open Hpv.Props.C01.Example in
example : (0 : Nat) ∉ endpoints forest ∧ (∀ x, ¬ TransGen (fun a b => (a, b) ∈ forest) x x) ∧
    candidates (dedup forest) = [4, 6] ∧ forestGraph.nodes = [0, 4, 5, 6, 7] ∧
    forestGraph.query natOrd .children (some 0) false = .ok [4, 6] := by
  rw [forestGraph, buildIndexed_forest]
  refine ⟨by decide +kernel, ?_, by decide +kernel, by decide +kernel, by decide +kernel⟩
  intro x hx
  -- every edge goes from a larger to a smaller key, so a cycle is impossible
  have hstep : ∀ e ∈ forest, e.2 < e.1 := by decide
  have mono : ∀ a b, TransGen (fun a b => (a, b) ∈ forest) a b → b < a := fun a b hab => by
    induction hab with
    | single hh => exact hstep _ hh
    | tail _ hh ih => exact Nat.lt_trans (hstep _ hh) ih
  exact absurd (mono x x hx) (Nat.lt_irrefl x)

-- the domain includes edge lists that MENTION the synthetic root's key when a single term is parentless (key 0 on top of 1 <- 2)
example : OwlOk (0 : Nat) [(1, 0), (2, 1)] ∧ (0 : Nat) ∈ endpoints [(1, 0), (2, 1)] ∧
    candidates (dedup [((1 : Nat), (0 : Nat)), (2, 1)]) = [0] := by
  unfold OwlOk; decide +kernel

end Hpv.Props.C02
