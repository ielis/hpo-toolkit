/-
C04 — TermId parsing, equality, hashing and ordering are mutually consistent.
Model: Hpv/TermId.lean (src/hpotk/model/_term_id.py).  Strings are code-point lists.
-/
import Hpv.TermIdProofs

namespace Hpv.Props.C04
open Hpv.TermId

/-- Parsing succeeds exactly when the string contains ':' or '_'. -/
theorem parse_iff (s : Str) : (fromCurie s).isSome ↔ colon ∈ s ∨ underscore ∈ s :=
  fromCurie_isSome s

/-- The split is at the first ':' (otherwise at the first '_'); the prefix never contains ':'
(so it is the *first* colon) and, in the underscore case, never contains '_'. -/
theorem split (s : Str) (t : TermId) (h : fromCurie s = some t) :
    colon ∉ t.pfx ∧
    ((colon ∈ s ∧ s = t.pfx ++ colon :: t.id) ∨
     (colon ∉ s ∧ underscore ∉ t.pfx ∧ s = t.pfx ++ underscore :: t.id)) :=
  (fromCurie_split s t h).2

/-- The printed value joins prefix and id with ':' and parses back to an equal TermId;
printing is idempotent under re-parsing. -/
theorem round_trip (s : Str) (t : TermId) (h : fromCurie s = some t) :
    t.curie = t.pfx ++ colon :: t.id ∧
    ∃ t', fromCurie t.curie = some t' ∧ t'.beq t = true ∧ t'.curie = t.curie := by
  obtain ⟨t', h1, h2, h3, h4⟩ := fromCurie_curie s t h
  exact ⟨rfl, t', h1, (beq_iff t' t).mpr ⟨h2, h3⟩, h4⟩

/-- Equality is "same prefix and same id", whatever delimiter / representation was stored. -/
theorem eq_iff (a b : TermId) : a.beq b = true ↔ a.pfx = b.pfx ∧ a.id = b.id := beq_iff a b

/-- `HP_1` and `HP:1` parse to equal TermIds (the delimiter is forgotten). -/
theorem delimiter_forgotten (p i : Str) (hp : colon ∉ p) (hpu : underscore ∉ p) (hi : colon ∉ i) :
    ∃ a b, fromCurie (p ++ colon :: i) = some a ∧ fromCurie (p ++ underscore :: i) = some b ∧ a.beq b = true :=
  ⟨_, _, fromCurie_colon i hp, fromCurie_underscore hp hpu hi, by simp [beq_iff, pfx_mk, id_mk]⟩

/-- Equal TermIds hash equally, for every tuple-hash function `H`, for both classes
(the recomputed hash and the hash cached at construction), also across classes. -/
theorem hash_eq {β} (H : Str × Str → β) (a b : TermId) (h : a.beq b = true) :
    a.hash H = b.hash H ∧
    (DefaultTermId.mk' H a.value a.idx).hash = (DefaultTermId.mk' H b.value b.idx).hash ∧
    (DefaultTermId.mk' H a.value a.idx).hash = b.hash H :=
  ⟨hash_congr H a b h, hash_congr H a b h, hash_congr H a b h⟩

/-- `<` is a strict total order modulo equality: irreflexive, transitive, trichotomous. -/
theorem lt_strict_total (a b c : TermId) :
    a.lt a = false ∧ (a.lt b = true → b.lt c = true → a.lt c = true) ∧
    (a.lt b = true ∨ a.beq b = true ∨ b.lt a = true) :=
  ⟨lt_irrefl a, lt_trans, lt_total a b⟩

/-- `<` is exactly the lexicographic order on (prefix, id). -/
theorem lt_lex (a b : TermId) :
    a.lt b = true ↔ (slt a.pfx b.pfx = true ∨ (a.pfx = b.pfx ∧ slt a.id b.id = true)) := by
  simp [lt_iff, slt_iff_lt, List.cons_lt_cons_iff]

/-- `<` and `==` respect equality on both sides, so they are well defined on (prefix, id). -/
theorem lt_congr (a a' b b' : TermId) (h1 : a.beq a' = true) (h2 : b.beq b' = true) :
    a.lt b = a'.lt b' ∧ a.beq b = a'.beq b' := by
  obtain ⟨p1, i1⟩ := (beq_iff a a').mp h1
  obtain ⟨p2, i2⟩ := (beq_iff b b').mp h2
  simp [TermId.lt, TermId.beq, p1, i1, p2, i2]

/-- `a < b` excludes both `b < a` and `a == b` -/
theorem lt_asymm (a b : TermId) : ¬ (a.lt b = true ∧ b.lt a = true) ∧ ¬ (a.lt b = true ∧ a.beq b = true) := by
  constructor
  · intro ⟨h1, h2⟩
    have := lt_trans h1 h2
    rw [lt_irrefl] at this; cases this
  · intro ⟨h1, h2⟩
    rw [(lt_congr a b b b h2 ((beq_iff b b).mpr ⟨rfl, rfl⟩)).1, lt_irrefl] at h1; cases h1

example : fromCurie [72, 80, 58, 49] = some ⟨[72, 80, 58, 49], 2⟩ := by decide     -- "HP:1"
example : fromCurie [72, 80, 95, 49] = some ⟨[72, 80, 95, 49], 2⟩ := by decide     -- "HP_1"
example : fromCurie [65, 95, 66, 58, 49] = some ⟨[65, 95, 66, 58, 49], 3⟩ := by decide  -- "A_B:1" splits at ':'
example : fromCurie [72, 80, 49] = none := by decide
example : (⟨[72, 80, 58, 49], 2⟩ : TermId).beq ⟨[72, 80, 95, 49], 2⟩ = true := by decide
example : (⟨[72, 80, 58, 49, 48], 2⟩ : TermId).lt ⟨[72, 80, 58, 50], 2⟩ = true := by decide  -- "HP:10" < "HP:2"

end Hpv.Props.C04
