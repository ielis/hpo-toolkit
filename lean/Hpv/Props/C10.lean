/-
C10 — the precomputed Resnik similarity is the IC of the most informative common ancestor.
Model: Hpv/Resnik.lean (`precalculate_ic_mica_for_hpo_concept_pairs` over the C15 container model).  The theorems hold
for ARBITRARY `groups` (children of Phenotypic abnormality), `desc` (descendants incl. the source), `anc` (ancestors
incl. the source) and `ic` (missing entries = 0, not necessarily monotone): what the graph helpers return is C01/C18.
IC values are integers standing for floats under an order-preserving injection; `max` and `> 0` are all the code uses.
-/
import Hpv.ResnikProofs

namespace Hpv.Props.C10
open Hpv.Sim Hpv.Resnik

/-- the maximum IC over the common ancestors (each term counting as its own ancestor when `anc` is reflexive), floor 0;
symmetric in the two terms -/
theorem mica_is_max (anc : Str → List Str) (ic : Str → Int) (l r : Str) :
    0 ≤ mica anc ic l r ∧ (∀ t, t ∈ anc l → t ∈ anc r → ic t ≤ mica anc ic l r) ∧
    (mica anc ic l r = 0 ∨ ∃ t, t ∈ anc l ∧ t ∈ anc r ∧ ic t = mica anc ic l r) ∧
    mica anc ic l r = mica anc ic r l :=
  ⟨mica_nonneg anc ic l r, fun _ => le_mica ic, mica_attained anc ic l r, mica_comm anc ic l r⟩

/-- For every pair below the same child of Phenotypic abnormality the precomputed similarity equals that maximum —
also for pairs reachable through two branches, in whatever order the branches are listed. -/
theorem same_branch (groups : List Str) (desc anc : Str → List Str) (ic : Str → Int) (x y : Str)
    (h : SameBranch groups desc x y) : get (precalc groups desc anc ic) x y = mica anc ic x y :=
  (precalc_spec groups desc anc ic x y).1 h

/-- For any pair whatsoever: symmetric, non-negative, never above the maximum; 0 outside a common branch. -/
theorem any_pair (groups : List Str) (desc anc : Str → List Str) (ic : Str → Int) (x y : Str) :
    get (precalc groups desc anc ic) x y = get (precalc groups desc anc ic) y x ∧
    0 ≤ get (precalc groups desc anc ic) x y ∧ get (precalc groups desc anc ic) x y ≤ mica anc ic x y ∧
    (¬ SameBranch groups desc x y → get (precalc groups desc anc ic) x y = 0) :=
  let h := precalc_spec groups desc anc ic x y
  ⟨h.2.2.1, h.2.2.2.1, h.2.2.2.2, h.2.1⟩

/-- Only pairs with positive similarity are stored (each once, under the ordered key, with its MICA value); any other pair reads as 0. -/
theorem stored_positive (groups : List Str) (desc anc : Str → List Str) (ic : Str → Int) :
    (∀ o i v, (o, i, v) ∈ items (precalc groups desc anc ic) → 0 < v ∧ sle o i = true ∧ v = mica anc ic o i) ∧
    ((items (precalc groups desc anc ic)).map (fun t => (t.1, t.2.1))).Nodup ∧
    (∀ x y, (∀ v, ((norm x y).1, (norm x y).2, v) ∉ items (precalc groups desc anc ic)) →
      get (precalc groups desc anc ic) x y = 0) := by
  obtain ⟨hwf, hpos⟩ := precalc_stored_positive groups desc anc ic
  obtain ⟨hnd, hprop⟩ := items_spec hwf
  refine ⟨fun o i v hv => ?_, hnd, fun x y h => get_not_stored hwf h⟩
  obtain ⟨hs, hg, _⟩ := hprop o i v hv
  have hp := hpos (o, i) v ((mem_items_iff hwf).mp hv)
  refine ⟨hp, hs, ?_⟩
  -- a positive read is the MICA value
  by_cases hb : SameBranch groups desc o i
  · rw [← hg]; exact same_branch groups desc anc ic o i hb
  · exact absurd hp (by rw [← hg, (any_pair groups desc anc ic o i).2.2.2 hb]; decide)

-- non-vacuity: two branches 10 and 20 sharing the descendant 3; ancestor lists include the term itself
def exDesc : Str → List Str := fun g => if g = [10] then [[10], [1], [3]] else if g = [20] then [[20], [2], [3]] else []
def exAnc : Str → List Str := fun t =>
  if t = [1] then [[1], [10], [0]] else if t = [2] then [[2], [20], [0]] else if t = [3] then [[3], [1], [2], [10], [20], [0]]
  else if t = [10] then [[10], [0]] else if t = [20] then [[20], [0]] else [t]
def exIc : Str → Int := fun t => if t = [1] then 4 else if t = [2] then 6 else if t = [3] then 8 else if t = [10] then 1 else 0

example : get (precalc [[10], [20]] exDesc exAnc exIc) [3] [2] = 6 ∧ get (precalc [[10], [20]] exDesc exAnc exIc) [1] [2] = 0 ∧
    get (precalc [[10], [20]] exDesc exAnc exIc) [20] [2] = 0 ∧ len (precalc [[10], [20]] exDesc exAnc exIc) = 8 := by decide +kernel

end Hpv.Props.C10
