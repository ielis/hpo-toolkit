/-
C13 — term-id argsort always returns a permutation of the input positions.
Model: Hpv/Sorting.lean (`HierarchicalSorting.argsort`: tagged leaves, the clustering loop with its similarity matrix, first
`argmax` and epsilon branch, the in-order walk and `_find_indices`).  Only the similarity VALUES (and the identifiers given to
merged clusters, which they may depend on) are an oracle.  There are two models of the loop: the trace model `cluster`, which
merges whatever pairs a trace lists (the first theorems quantify over every trace), and the policy `clusterLoop` / `choose`,
which picks the pairs as the code does; `policy_is_a_trace` ties them for a non-negative epsilon.
Identified inputs are normalised to their ids before anything else happens, so both input forms share this model.
-/
import Hpv.SortingPolicyProofs

namespace Hpv.Props.C13
open Hpv.Sorting

variable {κ : Type} [DecidableEq κ]

/-- For every non-empty input (repeats allowed) and every merge trace that ends in a single tree, argsort returns each
position `0..n-1` exactly once, and indexing the input with the result re-orders it without losing or duplicating an item. -/
theorem permutation (source : List κ) (trace : List (Nat × Nat)) (t : Tree κ)
    (h : cluster trace (source.map Tree.leaf) = some [t]) :
    ∃ res, argsort source trace = some res ∧ res.Perm (List.range source.length) ∧
      res.map (source[·]?) = t.inorder.map some ∧ (res.map (source[·]?)).Perm (source.map some) := by
  obtain ⟨res, h1, h2, h3⟩ := findIndices_spec (inorder_perm_of_cluster h)
  exact ⟨res, by rw [argsort, h]; exact h1, h2, h3, h3 ▸ (inorder_perm_of_cluster h).map some⟩

/-- a merge trace that ends in a single tree has exactly `n - 1` merges -/
theorem trace_length (source : List κ) (trace : List (Nat × Nat)) (t : Tree κ)
    (h : cluster trace (source.map Tree.leaf) = some [t]) : trace.length + 1 = source.length := by
  have := (cluster_inv h).2
  rwa [List.length_map, List.length_singleton, Nat.add_comm] at this

/-- a single item gives `(0,)` -/
theorem singleton (x : κ) : argsort [x] [] = some [0] := by
  simp [argsort, cluster, Tree.inorder, findIndices, enum, assign, takeFirst]

/-- two results of the same call are equal: true of any function; that the answer depends on the ids and the merge trace only is
carried by `argsort` being a function of exactly these, not by this theorem -/
theorem deterministic (source : List κ) (trace : List (Nat × Nat)) (r1 r2 : List Nat)
    (h1 : argsort source trace = some r1) (h2 : argsort source trace = some r2) : r1 = r2 := by
  rw [h1] at h2; exact Option.some.inj h2

/-- The same clause for the OTHER way to recover positions (clusters carry the positions of their leaves, a merge concatenates
them): also a permutation for every merge trace. The check accepts a working tree whose answers replay through either scheme. -/
theorem permutation_positions (n : Nat) (trace : List (Nat × Nat)) (t : Tree Nat)
    (h : cluster trace ((List.range n).map Tree.leaf) = some [t]) :
    ∃ res, argsortPos n trace = some res ∧ res.Perm (List.range n) :=
  ⟨t.inorder, by rw [argsortPos, h], inorder_perm_of_cluster h⟩

/-- **The clustering policy is total** (`_hierarchical_cluster`: similarity matrix with zero diagonal, first maximum, the
"nothing similar is left" branch that merges the last two clusters): for EVERY similarity measure - an oracle that may
answer anything for any pair of current clusters in any round - and every epsilon, negative ones included, no round pops
outside its list, and the loop ends with one tree whose leaves are exactly the input items. So `argsort` as a whole
returns a permutation of `0..n-1` for every non-empty input, with no assumption about which merges happen. -/
theorem policy_permutation (sim : List (Tree κ) → Nat → Nat → Int) (eps : Int) (source : List κ) (hne : source ≠ []) :
    ∃ res, argsortPolicy sim eps source = some res ∧ res.Perm (List.range source.length) ∧
      (res.map (source[·]?)).Perm (source.map some) := by
  obtain ⟨t, ht, hperm⟩ := clusterLoop_total sim eps source.length (source.map Tree.leaf) (by simp)
    (by simpa using List.length_pos_iff.mpr hne)
  rw [leaves_singleton, leaves_map_leaf] at hperm
  obtain ⟨res, h1, h2, h3⟩ := findIndices_spec hperm
  exact ⟨res, by simp [argsortPolicy, ht, h1], h2, h3 ▸ hperm.map some⟩

/-- what the policy pops in one round always exists (`n >= 2` clusters), whatever the similarities are -/
theorem policy_pops_valid (n : Nat) (hn : 2 ≤ n) (s : Nat → Nat → Int) (eps : Int) :
    (choose n s eps).1 < n ∧ (choose n s eps).2 + 1 < n :=
  choose_valid hn s eps

/-- a round that pops a higher and then a lower position is a step of the trace model the other theorems speak about -/
theorem policy_step_is_trace_step (nodes : List (Tree κ)) (hi lo : Nat) (h : lo < hi) :
    popTwice nodes hi lo = clusterStep nodes hi lo := by
  rw [clusterStep_eq, if_pos h]

/-- **The two models agree.** With a non-negative epsilon (the shipped sorters use 5e-10) the policy's loop is the trace model run on
the pops the policy chose, so `argsort` with the policy inside is `argsort` for that merge trace - whatever the similarity measure answers. -/
theorem policy_is_a_trace (sim : List (Tree κ) → Nat → Nat → Int) (eps : Int) (heps : 0 ≤ eps) (source : List κ) :
    argsortPolicy sim eps source = argsort source (policyTrace sim eps source.length (source.map Tree.leaf)) := by
  unfold argsortPolicy argsort
  rw [clusterLoop_eq_cluster sim eps heps]

-- non-vacuity: the recorded trace of a 5-item run, and an input with a repeated id
example : argsort [10, 20, 30, 40, 50] [(4, 0), (3, 1), (2, 1), (1, 0)] = some [4, 0, 2, 3, 1] := by decide +kernel
example : argsort [7, 7, 8] [(2, 1), (1, 0)] = some [2, 0, 1] := by decide +kernel
example : argsortPos 3 [(2, 1), (1, 0)] = some [2, 1, 0] ∧ argsortPos 2 [(1, 0)] = some [1, 0] := by decide +kernel
example : ∃ t, cluster [(2, 1), (1, 0)] ([7, 7, 8].map Tree.leaf) = some [t] := ⟨_, rfl⟩
-- the policy on three items: similarity 5 for the pair (0, 2), nothing else similar; then the epsilon branch
example : argsortPolicy (fun nodes r c => if nodes.length = 3 ∧ r = 0 ∧ c = 2 then 5 else 0) 0 [10, 20, 30] = some [2, 0, 1] := by decide +kernel
-- a NEGATIVE epsilon with no similarity at all: the maximum is the diagonal's zero at (0, 0), position 0 is popped twice
example : choose 3 (fun _ _ => 0) (-1) = (0, 0) ∧ argsortPolicy (fun _ _ _ => 0) (-1) [10, 20, 30] = some [2, 0, 1] := by decide +kernel

end Hpv.Props.C13
