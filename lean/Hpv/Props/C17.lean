/-
C17 — Sparse CSR matrix and its builder behave exactly like the dense matrix.
Model: Hpv/Csr.lean (CsrMatrixBuilder.__setitem__ on the flat arrays), Hpv/Matrix.lean (ImmutableCsrMatrix reads,
bound checks).
-/
import Hpv.MatrixProofs

namespace Hpv.Props.C17
open Hpv.Csr

/-- The dense specification is "last write wins, unset cells are the dtype's zero". -/
theorem spec_last_write (nrows ncols : Nat) (ops : List (Int × Int × Int)) (r c : Nat) (v : Int)
    (hr : r < nrows) (hc : c < ncols) :
    specOps nrows ncols [] = (fun _ _ => 0) ∧
    ∀ r' c', specOps nrows ncols (ops ++ [((r : Int), (c : Int), v)]) r' c' =
      if r' = r ∧ c' = c then v else specOps nrows ncols ops r' c' := by
  refine ⟨rfl, ?_⟩
  intro r' c'
  unfold specOps
  rw [List.foldl_append]
  simp only [List.foldl_cons, List.foldl_nil, stepSpec, validOp, inRange_cast, decide_eq_true hr, decide_eq_true hc,
    Bool.and_self, if_true, Int.toNat_natCast]

/-- an assignment outside the shape changes nothing in the specification -/
theorem spec_invalid_write (nrows ncols : Nat) (ops : List (Int × Int × Int)) (op : Int × Int × Int)
    (h : validOp nrows ncols op = false) :
    specOps nrows ncols (ops ++ [op]) = specOps nrows ncols ops := by
  unfold specOps
  rw [List.foldl_append]
  simp [stepSpec, h]

/-- **Refinement.** For every assignment history (any order, repeats, overwrites, out-of-shape attempts) the builder's
flat arrays are the CSR form of rows that are strictly sorted by column, within the shape, free of explicit zeros
(when only non-zero values were assigned), and read densely as the last-write-wins specification. -/
theorem builder_refines (nrows ncols : Nat) (ops : List (Int × Int × Int)) :
    ∃ rows, runOps nrows ncols ops = ofRows rows ∧ rows.length = nrows ∧ RowsWF rows ncols ∧
      ((∀ op ∈ ops, op.2.2 ≠ 0) → NZ rows) ∧
      ∀ r c, dense rows r c = specOps nrows ncols ops r c :=
  runOps_spec nrows ncols ops

/-- **Reads of a well-formed CSR triple** (given by hand or by the builder): cell, row and value-to-columns
queries equal the dense matrix; the column list is ascending and duplicate-free. -/
theorem csr_reads (rows : List Row) (ncols r : Nat) (q : Int) (hwf : RowsWF rows ncols) (hnz : NZ rows)
    (hr : r < rows.length) :
    (∀ c, c < ncols → (ofRowsM rows ncols).getCell (r : Int) (c : Int) = .ok (dense rows r c)) ∧
    (ofRowsM rows ncols).getRow (r : Int) = .ok ((List.range ncols).map (dense rows r)) ∧
    ∃ cs, (ofRowsM rows ncols).colIndicesOfVal (r : Int) q = .ok cs ∧ cs.Pairwise (· < ·) ∧
      ∀ c, c ∈ cs ↔ c < ncols ∧ dense rows r c = q :=
  have ⟨cs, h, hs, hm⟩ := colIndicesOfVal_spec_nd q hwf.toND hnz hr
  ⟨fun _ hc => getCell_spec hr hc, getRow_spec_nd hwf.toND hr, cs, h,
   hs.elim (List.pairwise_lt_range.sublist ·) ((hwf.sorted _ (List.getElem_mem hr)).sublist ·), hm⟩

/-- **Reads of a CSR triple whose rows list their columns in ANY order** (legal, non-canonical CSR given by hand: no column
twice in a row, every column inside the shape): cell, row and value-to-columns queries still equal the dense matrix it
represents; the column list has no repeats (its order is the storage order). -/
theorem csr_reads_any_column_order (rows : List Row) (ncols r : Nat) (q : Int) (hnd : RowsND rows ncols) (hnz : NZ rows)
    (hr : r < rows.length) :
    (∀ c, c < ncols → (ofRowsM rows ncols).getCell (r : Int) (c : Int) = .ok (dense rows r c)) ∧
    (ofRowsM rows ncols).getRow (r : Int) = .ok ((List.range ncols).map (dense rows r)) ∧
    ∃ cs, (ofRowsM rows ncols).colIndicesOfVal (r : Int) q = .ok cs ∧ cs.Nodup ∧
      ∀ c, c ∈ cs ↔ c < ncols ∧ dense rows r c = q :=
  have ⟨cs, h, hs, hm⟩ := colIndicesOfVal_spec_nd q hnd hnz hr
  ⟨fun _ hc => getCell_spec hr hc, getRow_spec_nd hnd hr, cs, h,
   hs.elim (·.nodup List.nodup_range) (·.nodup (hnd.nodup _ (List.getElem_mem hr))), hm⟩

/-- **End to end.** A matrix built by any history of non-zero assignments reads back, cell by cell, row by row and
in value-to-columns queries, exactly like the dense last-write-wins matrix. -/
theorem builder_reads_like_dense (nrows ncols : Nat) (ops : List (Int × Int × Int))
    (hnz : ∀ op ∈ ops, op.2.2 ≠ 0) (r : Nat) (hr : r < nrows) (q : Int) :
    let m := (runOps nrows ncols ops).toMatrix nrows ncols
    (∀ c, c < ncols → m.getCell (r : Int) (c : Int) = .ok (specOps nrows ncols ops r c)) ∧
    m.getRow (r : Int) = .ok ((List.range ncols).map (specOps nrows ncols ops r)) ∧
    ∃ cs, m.colIndicesOfVal (r : Int) q = .ok cs ∧ cs.Pairwise (· < ·) ∧
      ∀ c, c ∈ cs ↔ c < ncols ∧ specOps nrows ncols ops r c = q := by
  obtain ⟨rows, e, rfl, w, n, d⟩ := runOps_spec nrows ncols ops
  have h := csr_reads rows ncols r q w (n hnz) hr
  rw [funext (d r)] at h
  rw [e]
  exact h

/-- **Bounds.** Rows or columns outside the shape (negative ones included) raise instead of wrapping around. -/
theorem out_of_shape (m : Matrix) (b : Builder) (r c q v : Int) :
    (¬ (0 ≤ r ∧ r < m.nrows) →
      (∃ e, m.getRow r = .error e) ∧ (∃ e, m.colIndicesOfVal r q = .error e) ∧ (∃ e, m.getCell r c = .error e) ∧
      (∃ e, setItemChecked m.nrows m.ncols b r c v = .error e)) ∧
    (¬ (0 ≤ c ∧ c < m.ncols) →
      (∃ e, m.getCell r c = .error e) ∧ (∃ e, setItemChecked m.nrows m.ncols b r c v = .error e)) := by
  constructor
  · intro h
    have hr : inRange r m.nrows = false := by rwa [← Bool.not_eq_true, inRange_iff]
    refine ⟨?_, ⟨.indexError, ?_⟩, ⟨.indexError, ?_⟩, ⟨.indexError, ?_⟩⟩
    · rw [Matrix.getRow, hr, if_neg Bool.false_ne_true]; exact ⟨_, (apply_ite Except.error ..).symm⟩
    · rw [Matrix.colIndicesOfVal, hr]; rfl
    · rw [Matrix.getCell, hr]; rfl
    · rw [setItemChecked, hr]; rfl
  · intro h
    have hc : inRange c m.ncols = false := by rwa [← Bool.not_eq_true, inRange_iff]
    constructor
    · rw [Matrix.getCell, hc]; cases inRange r m.nrows <;> exact ⟨_, rfl⟩
    · rw [setItemChecked, hc]; cases inRange r m.nrows <;> exact ⟨_, rfl⟩

-- non-vacuity: a concrete history with an overwrite, a descending-column insert and an out-of-shape attempt
example : runOps 3 3 [(0, 2, 9), (0, 0, 7), (1, 1, -1), (0, 2, 5), (5, 0, 1), (0, -1, 1)] =
    ⟨[0, 2, 3, 3], [0, 2, 1], [7, 5, -1]⟩ := by decide +kernel
example : ((runOps 3 3 [(0, 2, 9), (0, 0, 7), (1, 1, -1), (0, 2, 5)]).toMatrix 3 3).getRow 0 = .ok [7, 0, 5] := by rfl
example : ((runOps 3 3 [(0, 2, 9), (0, 0, 7), (1, 1, -1), (0, 2, 5)]).toMatrix 3 3).colIndicesOfVal 0 0 = .ok [1] := by
  rfl
example : ((runOps 3 3 [(0, 2, 9)]).toMatrix 3 3).getCell 0 3 = .error .indexError := by rfl
example : RowsND [[(2, 5), (0, 7)], [(1, -1)], []] 3 ∧ ¬ RowsWF [[(2, 5), (0, 7)], [(1, -1)], []] 3 :=
  ⟨⟨by decide +kernel, by decide +kernel⟩,
   fun h => absurd (h.sorted _ List.mem_cons_self) (by unfold SortedRow; decide +kernel)⟩
example : RowsWF [[(0, 7), (2, 5)], [(1, -1)], []] 3 ∧ NZ [[(0, 7), (2, 5)], [(1, -1)], []] :=
  ⟨⟨by unfold SortedRow; decide +kernel, by decide +kernel⟩, by unfold NZ; decide +kernel⟩

end Hpv.Props.C17
