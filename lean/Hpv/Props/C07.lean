/-
C07 — the ontology store cache stays correct under repeats, failures, crashes and races.
Model: Hpv/Store.lean — a small-step transition system over worlds (file system below the store dir, remote, per-thread
loader program counters, event log).  An `Action` list is an arbitrary history: any number of loaders (threads or
processes), every interleaving at I/O-boundary granularity, a fault choice (`fail`, `failAfter n` bytes) at the
tag-list, fetch, read and write boundaries (no raising `makedirs`, `mkstemp`, `os.replace`, `os.remove`), a kill (`die`)
at every point, `clear(type)` / `clear()` at any time.  PARTIAL: POSIX semantics are assumed (`os.replace` atomic,
`mkstemp` names unique, a killed process leaves the prefixes it wrote); interleavings finer than I/O boundaries and real
SIGKILL timing inside one `write(2)` are not exhibited by the model.  Relative vs absolute store directories are a matter
of path arithmetic, exercised by the correspondence run only.
-/
import Hpv.StoreProofs
import Hpv.TagsProofs
import Hpv.StoreTraceProofs

namespace Hpv.Props.C07
open Hpv.Store

/-- **No incomplete file is ever left or observed at a cache location**: from an empty store, after ANY history, every
file at a cache location holds exactly the bytes the remote serves for it - and no action changes what the remote serves,
so that is what it served all along. -/
theorem no_incomplete_file (remote : Key → Option Bytes) (tags : Ty → List Nat) (as : List Action) (k : Key) (c : Bytes)
    (h : (run (World.init remote tags) as).files (.cache k) = some c) :
    (run (World.init remote tags) as).remote k = some c ∧ (run (World.init remote tags) as).remote = remote :=
  ⟨(inv_run _ as (inv_init remote tags)).cache k c h, run_remote _ as⟩

/-- A store that is found in any state satisfying the invariant - files left by earlier runs, loaders in flight - stays so. -/
theorem invariant_preserved (w : World) (as : List Action) (h : Inv w) : Inv (run w as) := inv_run w as h

/-- **What is loaded equals the bytes the remote served**: a loader that reaches `loaded k c` read `remote k = c`. -/
theorem loaded_is_remote (remote : Key → Option Bytes) (tags : Ty → List Nat) (as : List Action) (t : Nat) (k : Key) (c : Bytes)
    (h : (run (World.init remote tags) as).pcs t = .loaded k c) :
    (run (World.init remote tags) as).remote k = some c :=
  (h ▸ (inv_run _ as (inv_init remote tags)).loc t :)

/-- **A release is fetched only when the loader found no local copy**: in every history, every `fetch` event of a
thread is preceded by that thread's own `isfile = False` for the same key. -/
theorem fetch_only_if_missing (remote : Key → Option Bytes) (tags : Ty → List Nat) (as : List Action)
    (i t : Nat) (k : Key) (h : (run (World.init remote tags) as).log[i]? = some (Ev.fetch t k)) :
    ∃ j : Nat, j < i ∧ (run (World.init remote tags) as).log[j]? = some (Ev.isfile t k false) :=
  (logInv_run _ as (logInv_init remote tags)).fetches i t k h

/-- **Omitting the release selects the greatest available tag**; no tag at all is an error. Releases are numbers here
and "greatest" is `≤` on `Nat`; that this stands for Python's order on the tag strings is no theorem (the correspondence
run numbers the releases by their rank among the sorted tag strings). -/
theorem latest_release (l : List Nat) :
    (maxTag l = none ↔ l = []) ∧ ∀ m, maxTag l = some m → m ∈ l ∧ ∀ y ∈ l, y ≤ m := by
  rw [maxTag_eq_max?]
  exact ⟨List.max?_eq_none_iff, fun m hm => List.max?_eq_some_iff.mp hm⟩

/-- **Which names the GitHub tag API lists are releases, and which is the latest** (a second model, Hpv/Tags.lean, of
`_github.py`: `production_tag_pt` and `max` over the filtered names, tags as code-point strings in Python's string order):
the latest release is a listed production tag that no listed production tag exceeds; there is none exactly when no listed
name is a production tag; and a name is a production tag exactly when it is `v` + 4 digits + `-` + 2 digits + `-` + 2 digits
(every month and day number). Nothing here refers to `maxTag` or `Key.rel`. -/
theorem latest_production_tag (names : List Hpv.Tags.Str) :
    (match Hpv.Tags.latest names with
     | none => ∀ t ∈ names, Hpv.Tags.prodTag t = false
     | some r => r ∈ names ∧ Hpv.Tags.prodTag r = true ∧
         ∀ t ∈ names, Hpv.Tags.prodTag t = true → Hpv.Tags.lexLt r t = false) ∧
    ∀ s, Hpv.Tags.prodTag s = true ↔
      ∃ y1 y2 y3 y4 m1 m2 a1 a2, s = [118, y1, y2, y3, y4, 45, m1, m2, 45, a1, a2] ∧
        Hpv.Tags.isDigit y1 = true ∧ Hpv.Tags.isDigit y2 = true ∧ Hpv.Tags.isDigit y3 = true ∧ Hpv.Tags.isDigit y4 = true ∧
        Hpv.Tags.isDigit m1 = true ∧ Hpv.Tags.isDigit m2 = true ∧ Hpv.Tags.isDigit a1 = true ∧ Hpv.Tags.isDigit a2 = true :=
  ⟨Hpv.Tags.latest_spec names, Hpv.Tags.prodTag_iff⟩

-- non-vacuity: "v2021-10-10" beats "v2021-09-30" and "v2021-10-10X" / "2021-11-01" are not production tags
example : Hpv.Tags.latest [[118,50,48,50,49,45,48,57,45,51,48], [118,50,48,50,49,45,49,48,45,49,48],
    [118,50,48,50,49,45,49,48,45,49,48,88], [50,48,50,49,45,49,49,45,48,49]] =
    some [118,50,48,50,49,45,49,48,45,49,48] := by decide +kernel

/-- **Recovery**: whatever failures, kills, races and clears happened before, a later undisturbed load of a given release
that the remote serves succeeds and returns the remote's content. -/
theorem later_load_succeeds (remote : Key → Option Bytes) (tags : Ty → List Nat) (as : List Action)
    (t : Nat) (ty : Ty) (r : Nat) (b : Bytes)
    (hidle : (run (World.init remote tags) as).pcs t = .idle ∨ (run (World.init remote tags) as).pcs t = .failed ∨
      ∃ k c, (run (World.init remote tags) as).pcs t = .loaded k c)
    (hrem : (run (World.init remote tags) as).remote ⟨ty, r⟩ = some b) :
    (run (run (World.init remote tags) as) (healthyLoad t ty (some r))).pcs t = .loaded ⟨ty, r⟩ b :=
  recovery _ (inv_run _ as (inv_init remote tags)) t ty r b hidle hrem

/-- **Clearing**: one type removes exactly the files under that type (cached, temp and foreign ones); when no file lies
under it the files stay as they are (the type's directory is cleared all the same: `dirs` is not in the statement);
clearing everything leaves no file. -/
theorem clearing (w : World) (ty : Ty) (p : Path) :
    (step w (.clearTy ty)).files p = (if p.under ty then none else w.files p) ∧
    (step w .clearAll).files p = none ∧
    ((∀ q, q.under ty = true → w.files q = none) → (step w (.clearTy ty)).files = w.files) := by
  refine ⟨rfl, rfl, fun h => funext fun q => ?_⟩
  show (if q.under ty then none else w.files q) = w.files q
  split
  · next hq => exact (h q hq).symm
  · rfl

-- non-vacuity: a concrete race with a failed write, a kill and a clear; afterwards a healthy load succeeds
def exRemote : Key → Option Bytes := fun k => if k = ⟨.hpo, 3⟩ then some [1, 2, 3, 4] else none
def exHistory : List Action :=
  [.spawn 0 .hpo none, .spawn 1 .hpo (some 3), .loader 0 .ok, .loader 1 .ok, .loader 0 .ok, .loader 1 .ok, .loader 0 .ok,
   .loader 0 .ok, .loader 0 .ok, .loader 0 .ok, .loader 0 (.failAfter 2), .loader 1 .ok, .loader 1 .ok, .loader 1 .ok,
   .loader 1 .die, .clearTy .maxo, .loader 0 .ok]

example : (run (World.init exRemote (fun _ => [1, 3, 2])) exHistory).pcs 0 = .failed ∧
    (run (World.init exRemote (fun _ => [1, 3, 2])) exHistory).pcs 1 = .dead ∧
    (run (World.init exRemote (fun _ => [1, 3, 2])) exHistory).files (.cache ⟨.hpo, 3⟩) = none ∧
    (run (World.init exRemote (fun _ => [1, 3, 2])) exHistory).files (.tmp .hpo 1) = some [] ∧
    (run (run (World.init exRemote (fun _ => [1, 3, 2])) exHistory) (healthyLoad 2 .hpo (some 3))).pcs 2 = .loaded ⟨.hpo, 3⟩ [1, 2, 3, 4] := by
  decide +kernel

/-! The same clause for ANY loader program: the second model, Hpv/StoreTrace.lean, under the discipline the check evaluates
on the observed trace. -/

/-- After any prefix of a disciplined trace - a kill at any point - and a torn last write, every file at a cache location is
a complete copy of what the remote serves. -/
theorem any_program_no_incomplete_file (remote : Nat → Option Hpv.StoreTrace.Bytes) (ops : List Hpv.StoreTrace.Op)
    (hd : Hpv.StoreTrace.Disciplined remote Hpv.StoreTrace.emptyFS ops = true) (n : Nat) (p : Nat) (torn : Hpv.StoreTrace.Bytes) :
    Hpv.StoreTrace.Inv remote (Hpv.StoreTrace.run Hpv.StoreTrace.emptyFS (ops.take n)) ∧
    Hpv.StoreTrace.Inv remote (Hpv.StoreTrace.step (Hpv.StoreTrace.run Hpv.StoreTrace.emptyFS (ops.take n)) (.append (.other p) torn)) :=
  have h := Hpv.StoreTrace.inv_run_take remote _ ops n (Hpv.StoreTrace.inv_empty remote) hd
  -- a write to a path that is no cache location is always allowed
  ⟨h, Hpv.StoreTrace.inv_step remote _ _ h rfl⟩

/-- The discipline is decided by the scan the driver runs (`firstBad`). -/
theorem discipline_decided (remote : Nat → Option Hpv.StoreTrace.Bytes) (ops : List Hpv.StoreTrace.Op) :
    Hpv.StoreTrace.firstBad remote Hpv.StoreTrace.emptyFS ops 0 = none ↔
      Hpv.StoreTrace.Disciplined remote Hpv.StoreTrace.emptyFS ops = true :=
  Hpv.StoreTrace.firstBad_none remote _ ops 0

-- a loader that reads before it creates its temp file, writes in two pieces and renames: disciplined; writing the cache
-- location in place, or renaming a half-written file onto it: not
example : Hpv.StoreTrace.Disciplined (fun k => if k = 0 then some [1, 2, 3] else none) Hpv.StoreTrace.emptyFS
    [.noop, .noop, .create (.other 7), .append (.other 7) [1, 2], .append (.other 7) [3], .rename (.other 7) (.cache 0), .noop] = true := by decide
example : Hpv.StoreTrace.firstBad (fun k => if k = 0 then some [1, 2, 3] else none) Hpv.StoreTrace.emptyFS
    [.create (.other 7), .append (.other 7) [1, 2], .rename (.other 7) (.cache 0)] 0 = some 2 := by decide
example : Hpv.StoreTrace.firstBad (fun k => if k = 0 then some [1, 2, 3] else none) Hpv.StoreTrace.emptyFS
    [.noop, .create (.cache 0)] 0 = some 1 := by decide

end Hpv.Props.C07
