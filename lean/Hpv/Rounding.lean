/- Half-to-even rounding with its proofs: the one proof module a model file imports (Hpv/Hpoa.lean), so it has no imports. -/

/-- Python `round(N / D)` on exact rationals: half to even. -/
def roundHalfEven (N D : Nat) : Nat :=
  let q := N / D
  let r := N % D
  if 2 * r < D then q else if D < 2 * r then q + 1 else if q % 2 = 0 then q else q + 1

theorem roundHalfEven_cases (N D : Nat) :
    roundHalfEven N D = N / D ∧ 2 * (N % D) ≤ D ∨ roundHalfEven N D = N / D + 1 ∧ D ≤ 2 * (N % D) := by
  fun_cases roundHalfEven N D
  · next h1 => exact .inl ⟨rfl, Nat.le_of_lt h1⟩
  · next h1 h2 => exact .inr ⟨rfl, Nat.le_of_lt h2⟩
  · next h1 h2 h3 => exact .inl ⟨rfl, Nat.le_of_not_lt h2⟩
  · next h1 h2 h3 => exact .inr ⟨rfl, Nat.le_of_not_lt h1⟩

theorem roundHalfEven_close (N D : Nat) (hD : 0 < D) :
    2 * (roundHalfEven N D * D) ≤ 2 * N + D ∧ 2 * N ≤ 2 * (roundHalfEven N D * D) + D := by
  have hN : N / D * D + N % D = N := Nat.div_add_mod' N D
  have hr := Nat.mod_lt N hD
  rcases roundHalfEven_cases N D with ⟨e, h⟩ | ⟨e, h⟩
  · rw [e]; omega
  · rw [e, Nat.add_one_mul (N / D)]; omega

theorem roundHalfEven_between {L N U D : Nat} (hD : 0 < D) (hL : L ≤ N) (hU : N ≤ U) :
    2 * L ≤ 2 * (roundHalfEven N D * D) + D ∧ 2 * (roundHalfEven N D * D) ≤ 2 * U + D := by
  have h := roundHalfEven_close N D hD
  exact ⟨Nat.le_trans (Nat.mul_le_mul_left 2 hL) h.2,
    Nat.le_trans h.1 (Nat.add_le_add_right (Nat.mul_le_mul_left 2 hU) D)⟩

theorem roundHalfEven_le {N D c : Nat} (hD : 0 < D) (h : N ≤ D * c) : roundHalfEven N D ≤ c := by
  have := (roundHalfEven_close N D hD).1
  -- 2·(round·D) ≤ 2·N + D < 2·((c + 1)·D); cancel D
  refine Nat.le_of_lt_succ (Nat.lt_of_mul_lt_mul_right (a := D) ?_)
  rw [Nat.succ_mul, Nat.mul_comm c D]
  omega

/-- frequency term: numerator = round(mid * c) with mid = (lo + hi)/200 given in percent units -/
theorem freq_in_range (lo hi c : Nat) (hle : lo ≤ hi) :
    2 * (lo * c) ≤ 2 * (roundHalfEven ((lo + hi) * c) 200 * 100) + 100 ∧
    2 * (roundHalfEven ((lo + hi) * c) 200 * 100) ≤ 2 * (hi * c) + 100 := by
  have h := roundHalfEven_close ((lo + hi) * c) 200 (by decide)
  have hm : lo * c ≤ hi * c := Nat.mul_le_mul_right c hle
  rw [Nat.add_mul] at h ⊢
  omega

def table : List (Nat × Nat) := [(0,0),(1,4),(5,29),(30,79),(80,99),(100,100)]
theorem table_ok : ∀ p ∈ table, p.1 ≤ p.2 ∧ p.2 ≤ 100 := by decide
#print axioms freq_in_range
#eval [roundHalfEven 17 2, roundHalfEven 5 2, roundHalfEven 7 2, roundHalfEven (17*50) 100]
