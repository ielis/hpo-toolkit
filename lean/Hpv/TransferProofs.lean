/-
Index/label transfer.  Both graph classes answer a query in index space (a row of a CSR array, a row of the adjacency
matrix, a worklist traversal over such rows) and map the indices back to labels.  `Adjacency` says what it means for the
rows to realise a relation between labels; `Indexes` is what every answer then satisfies before it is mapped back.
First the one traversal fact that needs the graph model: the matrix graphs' run with the source itself in the buffer.
-/
import Hpv.GraphModel
import Hpv.Proofs

namespace Hpv

/-- the traversal that starts with the source in the buffer yields the source and its closure, each node once -/
theorem traverseFrom_source (P : Pop) (hP : P.Lawful) (succ : Nat → List Nat) (n i : Nat) (hi : i < n)
    (hbound : ∀ a b, b ∈ succ a → b < n) (hself : i ∉ succ i) (hnd : (succ i).Nodup) :
    ∃ res, Hpv.GM.traverseFrom P succ n (i :: succ i) = some res ∧ res.Nodup ∧ ∀ x, x ∈ res ↔ x = i ∨ Reach succ i x :=
  have ⟨res, h, hm, hn⟩ := loopFrom_spec P hP succ n (i :: succ i) hbound
    fun x hx => (List.mem_cons.mp hx).elim (· ▸ hi) (hbound i x)
  ⟨res, h, hn (List.nodup_cons.mpr ⟨hself, hnd⟩), fun x => (hm x).trans reachFrom_cons_row⟩

end Hpv

namespace Hpv.GM
open Relation

theorem traverseFrom_eq_traverse (P : Pop) (succ : Nat → List Nat) (n src : Nat) :
    traverseFrom P succ n (succ src) = traverse P succ n src := rfl

variable {κ : Type} {nodes : List κ} {l : List Nat} {p : κ → Prop} {succ : Nat → List Nat} {rel : κ → κ → Prop}
  {i j : Nat} {v y : κ}

/-- `l` lists exactly the indices of the labels that satisfy `p` -/
def Indexes (nodes : List κ) (l : List Nat) (p : κ → Prop) : Prop := ∀ j, j ∈ l ↔ ∃ y, nodes[j]? = some y ∧ p y

theorem Indexes.mem_iff (h : Indexes nodes l p) (hj : nodes[j]? = some y) : j ∈ l ↔ p y := by
  rw [h j, hj]
  exact ⟨fun ⟨_, e, hp⟩ => Option.some.inj e ▸ hp, fun hp => ⟨y, rfl, hp⟩⟩

theorem Indexes.mem_labels (h : Indexes nodes l p) (hp : ∀ y, p y → y ∈ nodes) (x : κ) : x ∈ mapNodes nodes l ↔ p x := by
  simp only [mapNodes, List.mem_filterMap, h _]
  constructor
  · rintro ⟨j, ⟨y, hy, hpy⟩, hx⟩
    rwa [← Option.some.inj (hy.symm.trans hx)]
  · intro hx
    obtain ⟨j, hj⟩ := List.getElem?_of_mem (hp x hx)
    exact ⟨j, ⟨x, hj, hx⟩, hj⟩

theorem Indexes.labels_eq_nil (h : Indexes nodes l p) (hp : ∀ y, p y → y ∈ nodes) : mapNodes nodes l = [] ↔ l = [] := by
  simp only [List.eq_nil_iff_forall_not_mem, h.mem_labels hp, h _]
  constructor
  · rintro hno j ⟨y, _, hy⟩
    exact hno y hy
  · intro hno y hy
    obtain ⟨j, hj⟩ := List.getElem?_of_mem (hp y hy)
    exact hno j ⟨y, hj, hy⟩

theorem nodup_mapNodes (hnd : nodes.Nodup) (hl : l.Nodup) : (mapNodes nodes l).Nodup := by
  refine List.Pairwise.filterMap _ (fun a a' hne b hb b' hb' hbb => hne ?_) hl
  exact (List.getElem?_inj (List.getElem?_eq_some_iff.mp hb).1 hnd).mp (by rw [hb, hb', hbb])

/-- `include_source` of the matrix graphs, read in index space: one more index in the answer is one more label in its image -/
theorem mem_mapNodes_cons (hi : nodes[i]? = some v) {l' : List Nat} (h : ∀ j, j ∈ l' ↔ j = i ∨ j ∈ l) (x : κ) :
    x ∈ mapNodes nodes l' ↔ x = v ∨ x ∈ mapNodes nodes l := by
  simp only [mapNodes, List.mem_filterMap, h]
  constructor
  · rintro ⟨j, rfl | hj, hx⟩
    · exact .inl (Option.some.inj (hx.symm.trans hi))
    · exact .inr ⟨j, hj, hx⟩
  · rintro (rfl | ⟨j, hj, hx⟩)
    · exact ⟨i, .inl rfl, hi⟩
    · exact ⟨j, .inr hj, hx⟩

/-- Row `i` of `succ` lists exactly the indices of the labels that `rel` relates to label `i`. -/
structure Adjacency (nodes : List κ) (succ : Nat → List Nat) (rel : κ → κ → Prop) : Prop where
  row : ∀ i x, nodes[i]? = some x → Indexes nodes (succ i) (rel x)
  bound : ∀ i j, j ∈ succ i → j < nodes.length
  closed : ∀ x y, rel x y → y ∈ nodes

theorem Adjacency.closed_transGen (h : Adjacency nodes succ rel) (hr : TransGen rel v y) : y ∈ nodes := by
  cases hr with
  | single hh => exact h.closed _ _ hh
  | tail _ hh => exact h.closed _ _ hh

theorem Adjacency.reach_iff (h : Adjacency nodes succ rel) (hi : nodes[i]? = some v) :
    Reach succ i j ↔ ∃ y, nodes[j]? = some y ∧ TransGen rel v y := by
  constructor
  · intro hj
    induction hj with
    | single hb =>
      obtain ⟨y, hy, hxy⟩ := (h.row i v hi _).mp hb
      exact ⟨y, hy, .single hxy⟩
    | tail _ hb ih =>
      obtain ⟨y, hy, hr⟩ := ih
      obtain ⟨z, hz, hyz⟩ := (h.row _ y hy _).mp hb
      exact ⟨z, hz, .tail hr hyz⟩
  · rintro ⟨y, hy, hr⟩
    induction hr generalizing j with
    | single hxy => exact .single ((h.row i v hi j).mpr ⟨_, hy, hxy⟩)
    | @tail m _ hr hyz ih =>
      obtain ⟨b, hb⟩ := List.getElem?_of_mem (h.closed_transGen hr)
      exact .tail (ih hb) ((h.row b m hb j).mpr ⟨_, hy, hyz⟩)

/-- duplicate-freeness is an implication in the conclusion, not a hypothesis: `Indexed.ancestors_spec` uses this without
knowing its first row duplicate-free -/
theorem Adjacency.closure (h : Adjacency nodes succ rel) (P : Pop) (hP : P.Lawful) (hi : nodes[i]? = some v) :
    ∃ idxs, traverse P succ nodes.length i = some idxs ∧ Indexes nodes idxs (TransGen rel v) ∧
      ((succ i).Nodup → idxs.Nodup) := by
  obtain ⟨idxs, htr, hmem⟩ := traverse_correct P hP succ nodes.length i h.bound
  exact ⟨idxs, htr, fun j => (hmem j).trans (h.reach_iff hi),
    fun hnd => traverse_nodup P hP succ _ i hnd idxs htr⟩

end Hpv.GM
