-- Every model and proof module is imported by the property module it serves, so the property modules reach the whole library.
import Hpv.Props.C01
import Hpv.Props.C02
import Hpv.Props.C03
import Hpv.Props.C04
import Hpv.Props.C05
import Hpv.Props.C06
import Hpv.Props.C07
import Hpv.Props.C08
import Hpv.Props.C09
import Hpv.Props.C10
import Hpv.Props.C11
import Hpv.Props.C12
import Hpv.Props.C13
import Hpv.Props.C14
import Hpv.Props.C15
import Hpv.Props.C16
import Hpv.Props.C17
import Hpv.Props.C18
